import PedalProofs.TifaFlowLemmas
/-
C09 — TIFA's initialisation / unused-variable diagnoses match the execution paths.

All theorems are about `Pedal.TifaFlow.run` / `analyse` / `unusedReported`, the functions the driver
executes (`lean/Drivers/C09.lean`), and about the two concrete semantics `specRun` (all branch-outcome
vectors, if-subset) and `Runs` (single executions with loops) defined next to them.
-/
namespace Pedal.TifaFlow

/-! ## Issues as events and as sites -/

theorem issueEvents_append (a b : List Issue) : issueEvents (a ++ b) = issueEvents a ++ issueEvents b := by
  simp [issueEvents, List.filterMap_append]

theorem specEvents_append (a b : List ReadEv) : specEvents (a ++ b) = specEvents a ++ specEvents b := by
  simp [specEvents, List.filter_append]

theorem issueSites_append (a b : List Issue) : issueSites (a ++ b) = issueSites a ++ issueSites b := by
  simp [issueSites, List.filter_append]

/-- The reported sites are the initialisation events without their class. -/
theorem issueSites_eq (is : List Issue) : issueSites is = (issueEvents is).map fun e => (e.name, e.line) := by
  induction is with
  | nil => rfl
  | cons i is ih =>
    rw [← List.singleton_append, issueSites_append, issueEvents_append, List.map_append, ih]
    obtain ⟨l, _, _⟩ := i
    cases l <;> rfl

/-- A load emits the issue that the name's classification on the current path asks for. -/
theorem issueEvents_load (chain : List NameMap) (line : Nat) (st : St) (x : Var) :
    issueEvents (load chain line st x).issues
      = issueEvents st.issues ++ specEvents [⟨absSet (st.cur :: chain) x, x, line⟩] := by
  unfold load absSet
  cases findVar (st.cur :: chain) x with
  | none =>
    rw [issueEvents_append]
    split <;> rfl
  | some v =>
    obtain ⟨s, _⟩ := v
    rw [issueEvents_append]
    cases s <;> rfl

/-! ## Part 1: exactness on the if-subset -/

/-- Invariant: for every variable, TIFA's `set` value seen from the current path = the classification
    of "assigned" over ALL paths reaching this point. -/
def InvSet (maps : List NameMap) (ps : List PState) : Prop :=
  ps ≠ [] ∧ ∀ x, absSet maps x = concSet ps x

/-- Entering a new path (an empty map in front of the chain) changes no lookup. -/
theorem invSet_nil_cons {maps : List NameMap} {ps : List PState} (h : InvSet maps ps) : InvSet ([] :: maps) ps :=
  h

/-- `load_variable` is exact: the issue it emits is the one the paths demand, and it changes no
    variable's assigned-classification. -/
theorem c09_load_exact {chain : List NameMap} {st : St} {ps : List PState} (line : Nat) (x : Var)
    (h : InvSet (st.cur :: chain) ps) :
    issueEvents (load chain line st x).issues = issueEvents st.issues ++ specEvents [⟨concSet ps x, x, line⟩]
    ∧ InvSet ((load chain line st x).cur :: chain) (ps.map (pRead · x)) := by
  refine ⟨h.2 x ▸ issueEvents_load .., mt List.map_eq_nil_iff.1 h.1, fun y => ?_⟩
  rw [absSet_load, concSet_map_pRead, h.2 y]

/-- `store_variable` is exact: the stored variable becomes "assigned on every path", nothing else moves. -/
theorem c09_store_exact {chain : List NameMap} {st : St} {ps : List PState} (x : Var)
    (h : InvSet (st.cur :: chain) ps) :
    (store st x).issues = st.issues ∧ InvSet ((store st x).cur :: chain) (ps.map (pWrite · x)) := by
  refine ⟨rfl, mt List.map_eq_nil_iff.1 h.1, fun y => ?_⟩
  rw [absSet_store, concSet_map_pWrite, h.2 y]

/-- KEY LEMMA: after `merge_paths` the assigned-classification of every variable is the union
    classification of the two branches' path sets. -/
theorem c09_merge_set_is_union {parent left right : NameMap} {chain : List NameMap} {ps qs : List PState}
    (hl : InvSet (left :: parent :: chain) ps) (hr : InvSet (right :: parent :: chain) qs) :
    InvSet (mergePaths parent left right chain :: chain) (ps ++ qs) := by
  refine ⟨List.append_ne_nil_of_left_ne_nil hl.1 _, fun x => ?_⟩
  rw [absSet_mergePaths, concSet_append hl.1 hr.1, hl.2 x, hr.2 x]

/-! ## Part 1b: the `read` flag (if-subset) -/

/-- Invariant for one variable `x`, valid as long as no read of `x` happened at a point where no path
    had assigned it: the analysis holds no state for `x` while no path has assigned it (no phantom
    `{set: no, read: yes}`), and TIFA's `read` is 'no' exactly when no path has read `x` since assigning it. -/
def InvRead (x : Var) (maps : List NameMap) (ps : List PState) : Prop :=
  (absSet maps x = .none → findVar maps x = none) ∧
  ((look maps x).read = .no ↔ ∀ σ ∈ ps, x ∈ σ.asg → x ∉ σ.rd)

theorem invRead_nil_cons {x : Var} {maps : List NameMap} {ps : List PState} (h : InvRead x maps ps) :
    InvRead x ([] :: maps) ps :=
  h

theorem noEUR_append {x : Var} {a b : List ReadEv} :
    NoEarlierUnsetRead x (a ++ b) = true ↔ NoEarlierUnsetRead x a = true ∧ NoEarlierUnsetRead x b = true := by
  rw [NoEarlierUnsetRead, List.all_append, Bool.and_eq_true]
  rfl

/-- `InvRead x` survives an operation that leaves alone the lookup of `x` and, on every path, whether `x` is
    assigned and whether it is read. -/
theorem invRead_congr {x : Var} {maps maps' : List NameMap} {ps : List PState} (f : PState → PState)
    (hfind : findVar maps' x = findVar maps x)
    (hasg : ∀ σ, x ∈ (f σ).asg ↔ x ∈ σ.asg) (hrd : ∀ σ, x ∈ (f σ).rd ↔ x ∈ σ.rd)
    (h : InvRead x maps ps) : InvRead x maps' (ps.map f) := by
  unfold InvRead absSet look at *
  simpa only [hfind, List.forall_mem_map, hasg, hrd] using h

theorem read_load {chain : List NameMap} {st : St} {ps : List PState} (line : Nat) (x r : Var)
    (hs : InvSet (st.cur :: chain) ps) (hr : InvRead x (st.cur :: chain) ps)
    (hno : NoEarlierUnsetRead x [⟨concSet ps r, r, line⟩] = true) :
    InvRead x ((load chain line st r).cur :: chain) (ps.map (pRead · r)) := by
  by_cases hrx : r = x
  · subst hrx
    have hc : concSet ps r ≠ .none := by
      intro hc; simp [NoEarlierUnsetRead, hc] at hno
    constructor
    · rw [absSet_load, hs.2 r]
      exact fun h => absurd h hc
    · rw [look_load, if_pos rfl]
      refine ⟨nofun, fun hall => absurd ((concSet_none_iff hs.1).2 fun σ hσ hx => ?_) hc⟩
      exact hall (pRead σ r) (List.mem_map_of_mem hσ) hx List.mem_cons_self
  · exact invRead_congr (pRead · r) (by rw [findVar_load, if_neg hrx]) (fun _ => Iff.rfl)
      (fun _ => mem_rd_pRead.trans (or_iff_right (Ne.symm hrx))) hr

theorem read_store {chain : List NameMap} {st : St} {ps : List PState} (x y : Var)
    (hr : InvRead x (st.cur :: chain) ps) :
    InvRead x ((store st y).cur :: chain) (ps.map (pWrite · y)) := by
  by_cases hyx : y = x
  · subst hyx
    constructor
    · rw [absSet_store, if_pos rfl]
      exact nofun
    · rw [look_store, if_pos rfl, List.forall_mem_map]
      exact ⟨fun _ _ _ _ h => (mem_rd_pWrite.1 h).2 rfl, fun _ => rfl⟩
  · have hxy : x ≠ y := Ne.symm hyx
    exact invRead_congr (pWrite · y) (by rw [findVar_store, if_neg hyx])
      (fun _ => mem_asg_pWrite.trans (or_iff_right hxy)) (fun _ => mem_rd_pWrite.trans (and_iff_left hxy)) hr

/-- 'no' survives a merge only if both branches say 'no': nothing is held for `x`, or nobody has read
    it, on the paths of both. -/
theorem read_merge {x : Var} {parent left right : NameMap} {chain : List NameMap} {ps qs : List PState}
    (hl : InvRead x (left :: parent :: chain) ps) (hr : InvRead x (right :: parent :: chain) qs) :
    InvRead x (mergePaths parent left right chain :: chain) (ps ++ qs) := by
  constructor
  · rw [absSet_mergePaths, Cls.join_eq (t := .none) nofun, findVar_mergePaths]
    intro h
    rw [hl.1 h.1, hr.1 h.2]
    rfl
  · rw [look_mergePaths, List.forall_mem_append, ← hl.2, ← hr.2]
    exact matchRso_eq (t := .no) nofun

/-! ## Part 1c: the analysis simulates the path semantics -/

/-- The step `st ↦ st'` of the analysis, on a path inside `chain`, matches the step of the path semantics
    that turns the paths `ps` into `qs` and demands the events `evs`: the same issues, `InvSet` kept, and
    `InvRead` kept for every variable the events do not exclude. -/
def Sim (chain : List NameMap) (st : St) (ps : List PState) (st' : St) (qs : List PState) (evs : List ReadEv) :
    Prop :=
  InvSet (st.cur :: chain) ps →
    issueEvents st'.issues = issueEvents st.issues ++ specEvents evs ∧
    InvSet (st'.cur :: chain) qs ∧
    ∀ x, NoEarlierUnsetRead x evs = true → InvRead x (st.cur :: chain) ps → InvRead x (st'.cur :: chain) qs

theorem Sim.refl (chain : List NameMap) (st : St) (ps : List PState) : Sim chain st ps st ps [] :=
  fun h => ⟨(List.append_nil _).symm, h, fun _ _ hr => hr⟩

theorem Sim.trans {chain : List NameMap} {st st' st'' : St} {ps qs rs : List PState} {e e' : List ReadEv}
    (h : Sim chain st ps st' qs e) (h' : Sim chain st' qs st'' rs e') : Sim chain st ps st'' rs (e ++ e') := by
  intro hs
  obtain ⟨h1, h2, h3⟩ := h hs
  obtain ⟨h1', h2', h3'⟩ := h' h2
  refine ⟨by rw [h1', h1, specEvents_append, List.append_assoc], h2', fun x hno hr => ?_⟩
  obtain ⟨hno, hno'⟩ := noEUR_append.1 hno
  exact h3' x hno' (h3 x hno hr)

theorem sim_load (chain : List NameMap) (line : Nat) (st : St) (ps : List PState) (r : Var) :
    Sim chain st ps (load chain line st r) (ps.map (pRead · r)) [⟨concSet ps r, r, line⟩] :=
  fun hs =>
    ⟨(c09_load_exact line r hs).1, (c09_load_exact line r hs).2, fun x hno hr => read_load line x r hs hr hno⟩

theorem sim_store (chain : List NameMap) (st : St) (ps : List PState) (y : Var) :
    Sim chain st ps (store st y) (ps.map (pWrite · y)) [] :=
  fun hs => ⟨(List.append_nil _).symm, (c09_store_exact y hs).2, fun x _ hr => read_store x y hr⟩

theorem sim_loads (chain : List NameMap) (line : Nat) (rs : List Var) :
    ∀ (st : St) (ps : List PState),
      Sim chain st ps (loads chain line st rs) (specLoads line ps rs).paths (specLoads line ps rs).events := by
  induction rs with
  | nil => exact Sim.refl chain
  | cons r rs ih => exact fun st ps => (sim_load chain line st ps r).trans (ih _ _)

/-- `visit_If`: both branches start from the paths `ps` on a new empty path under `parent`, the second
    with the issues of the first; `merge_paths` writes the outcome into `parent`. -/
theorem sim_ite {chain : List NameMap} {st l r : St} {ps qs qs' : List PState} {e e' : List ReadEv}
    (hl : Sim (st.cur :: chain) { st with cur := [] } ps l qs e)
    (hr : Sim (st.cur :: chain) { l with cur := [] } ps r qs' e') :
    Sim chain st ps { r with cur := mergePaths st.cur l.cur r.cur chain } (qs ++ qs') (e ++ e') := by
  intro hs
  obtain ⟨h1, h2, h3⟩ := hl (invSet_nil_cons hs)
  obtain ⟨h1', h2', h3'⟩ := hr (invSet_nil_cons hs)
  refine ⟨by rw [h1', h1, specEvents_append, List.append_assoc], c09_merge_set_is_union h2 h2',
    fun x hno hx => ?_⟩
  obtain ⟨hno, hno'⟩ := noEUR_append.1 hno
  exact read_merge (h3 x hno (invRead_nil_cons hx)) (h3' x hno' (invRead_nil_cons hx))

/-- C09 on the if-subset, from any point of the visit: any chain, any state of the analysis and any list
    of paths that `InvSet` relates. -/
theorem run_exact (p : Prog) (hio : IfOnly p = true) :
    ∀ (chain : List NameMap) (st : St) (ps : List PState),
      Sim chain st ps (run p chain st) (specRun p ps).paths (specRun p ps).events := by
  induction p with
  | skip => exact Sim.refl
  | assign line x rs rest ih =>
    intro chain st ps
    exact (sim_loads chain line rs st ps).trans ((sim_store chain _ _ x).trans (ih hio _ _ _))
  | expr line rs rest ih =>
    intro chain st ps
    exact (sim_loads chain line rs st ps).trans (ih hio _ _ _)
  | ite line rs thn els rest iht ihe ihr =>
    intro chain st ps
    simp only [IfOnly, Bool.and_eq_true] at hio
    simpa only [run, specRun, List.append_assoc] using (sim_loads chain line rs st ps).trans
      ((sim_ite (iht hio.1.1 _ _ _) (ihe hio.1.2 _ _ _)).trans (ihr hio.2 _ _ _))
  | «while» => cases hio
  | «for» => cases hio

theorem invSet_start : InvSet (initSt.cur :: []) startPaths :=
  ⟨nofun, fun _ => rfl⟩

theorem invRead_start (x : Var) : InvRead x (initSt.cur :: []) startPaths :=
  ⟨fun _ => rfl, fun _ _ hσ hx => (by cases List.mem_singleton.1 hσ; cases hx), fun _ => rfl⟩

/-- C09, first sentence, for EVERY program of the if-subset (any size, any nesting): the
    initialisation issues TIFA emits - as (class, variable, line), in order - are exactly the reads that
    are not assigned on every path, each with the class the set of all branch outcomes dictates:
    `none` (Initialization Problem / read-out-of-scope) when no path assigns first, `some` (Possible
    Initialization Problem) when only some do, and no issue when all do. -/
theorem c09_init_exact (p : Prog) (h : IfOnly p = true) :
    issueEvents (run p [] initSt).issues = specEvents (specRun p startPaths).events :=
  (run_exact p h [] initSt startPaths invSet_start).1

/-! ## Part 1d: the unused-variable report (if-subset) -/

theorem mem_finishScope {root : NameMap} {x : Var} :
    x ∈ finishScope root ↔ ∃ v, get root x = some v ∧ v.read = .no := by
  unfold finishScope
  rw [List.mem_filter]
  constructor
  · intro ⟨_, h⟩
    cases hg : get root x with
    | none => simp [hg] at h
    | some v => exact ⟨v, rfl, by simpa [hg] using h⟩
  · intro ⟨v, hg, hv⟩
    exact ⟨mem_keys_of_get hg, by simp [hg, hv]⟩

/-- The paths' verdict on `x`: some path assigns it and no path reads it after its last assignment. -/
def NeverReadAfter (x : Var) (ps : List PState) : Prop :=
  (∃ σ ∈ ps, x ∈ σ.asg) ∧ ∀ σ ∈ ps, x ∈ σ.asg → x ∉ σ.rd

/-- The full-strength second sentence of C09 (refuted below: `c09_unused_phantom_counterexample`). -/
def C09_UnusedExact_Full : Prop :=
  ∀ (p : Prog) (x : Var), IfOnly p = true →
    (x ∈ unusedReported p ↔ NeverReadAfter x (specRun p startPaths).paths)

/-- C09, second sentence, for every if-subset program and every variable that is nowhere read while
    assigned on no path: `x` is reported unused EXACTLY when some path assigns it and no path reads it
    after its last assignment. -/
theorem c09_unused_exact (p : Prog) (x : Var) (h : IfOnly p = true)
    (hno : NoEarlierUnsetRead x (specRun p startPaths).events = true) :
    x ∈ unusedReported p ↔ NeverReadAfter x (specRun p startPaths).paths := by
  obtain ⟨_, hs, hr⟩ := run_exact p h [] initSt startPaths invSet_start
  obtain ⟨hph, hrd⟩ := hr x hno (invRead_start x)
  -- some path assigns `x` exactly when the module path holds a state for it; "no phantom" gives `→`
  have hasg : (∃ σ ∈ (specRun p startPaths).paths, x ∈ σ.asg) ↔ findVar [(run p [] initSt).cur] x ≠ none := by
    rw [Ne, ← (⟨hph, fun h => by rw [absSet, h]⟩ : absSet _ x = .none ↔ _), hs.2 x, concSet_none_iff hs.1]
    simp
  unfold unusedReported NeverReadAfter
  rw [mem_finishScope, ← findVar_single, hasg, ← hrd, look]
  cases findVar [(run p [] initSt).cur] x <;> simp

/-- "a variable never read after its last assignment on any path is reported unused" -/
theorem c09_unused_reported_when_never_read (p : Prog) (x : Var) (h : IfOnly p = true)
    (hno : NoEarlierUnsetRead x (specRun p startPaths).events = true)
    (hasg : ∃ σ ∈ (specRun p startPaths).paths, x ∈ σ.asg)
    (hnever : ∀ σ ∈ (specRun p startPaths).paths, x ∈ σ.asg → x ∉ σ.rd) :
    x ∈ unusedReported p :=
  (c09_unused_exact p x h hno).2 ⟨hasg, hnever⟩

/-- "… and one read after its last assignment on every path is not" -/
theorem c09_unused_not_reported_when_always_read (p : Prog) (x : Var) (h : IfOnly p = true)
    (hno : NoEarlierUnsetRead x (specRun p startPaths).events = true)
    (halways : ∀ σ ∈ (specRun p startPaths).paths, x ∈ σ.asg → x ∈ σ.rd) :
    x ∉ unusedReported p := by
  intro hrep
  obtain ⟨⟨σ, hσ, hx⟩, hall⟩ := (c09_unused_exact p x h hno).1 hrep
  exact hall σ hσ hx (halways σ hσ hx)

/-- The partial theorem is the full statement minus exactly the excluded region. -/
theorem c09_unused_full_of_no_excluded
    (hex : ∀ (p : Prog) (x : Var), NoEarlierUnsetRead x (specRun p startPaths).events = true) :
    C09_UnusedExact_Full :=
  fun p x h => c09_unused_exact p x h (hex p x)

/-- `print(x)` / `if c: x = 1` (after `c = 1`): x is never read after its assignment, TIFA does not
    report it (the phantom `{set: no, read: yes}` state left by the first read merges to 'maybe'). -/
def phantomWitness : Prog :=
  .assign 1 3 [] (.expr 2 [0] (.ite 3 [3] (.assign 4 0 [] .skip) .skip .skip))

theorem c09_unused_phantom_counterexample : ¬ C09_UnusedExact_Full := fun hfull =>
  absurd ((hfull phantomWitness 0 rfl).2 (by unfold NeverReadAfter; decide)) (by decide)

-- non-vacuity of the hypothesis, and of both verdicts
example : NoEarlierUnsetRead 0 (specRun (.assign 1 3 [] (.ite 2 [3] (.assign 3 0 [] .skip) .skip .skip)) startPaths).events = true := by decide
example : unusedReported (.assign 1 3 [] (.ite 2 [3] (.assign 3 0 [] .skip) .skip .skip)) = [0] := by decide
example : unusedReported (.assign 1 3 [] (.ite 2 [3] (.assign 3 0 [] .skip) .skip (.expr 4 [0] .skip))) = [] := by decide

/-! ## Part 2: loops - no missed uninitialised read -/

/-- Soundness invariant: whatever TIFA considers definitely set is assigned in the concrete state. -/
def Sound (maps : List NameMap) (σ : List Var) : Prop :=
  ∀ x, absSet maps x = .all → x ∈ σ

theorem sound_mono {maps : List NameMap} {σ τ : List Var} (h : Sound maps σ) (hsub : σ ⊆ τ) : Sound maps τ :=
  fun x hx => hsub (h x hx)

theorem sound_nil_cons {maps : List NameMap} {σ : List Var} (h : Sound maps σ) : Sound ([] :: maps) σ :=
  h

theorem sound_start : Sound (initSt.cur :: []) [] :=
  nofun

theorem runs_mono {p : Prog} {σ σ' : List Var} {e : List (Var × Nat)} (h : Runs p σ e σ') : σ ⊆ σ' := by
  induction h with
  | skip σ => exact fun _ hx => hx
  | assign _ ih => exact fun _ hx => ih (List.mem_cons_of_mem _ hx)
  | expr _ ih => exact ih
  | iteT _ _ ih1 ih2 => exact ih1.trans ih2
  | iteF _ _ ih1 ih2 => exact ih1.trans ih2
  | whileStop _ ih => exact ih
  | whileIter _ _ ih1 ih2 => exact ih1.trans ih2
  | forStop _ ih => exact ih
  | forIter _ _ ih1 ih2 => exact fun _ hx => ih2 (ih1 (List.mem_cons_of_mem _ hx))

theorem issueSites_mono {a b : List Issue} (h : a ⊆ b) : issueSites a ⊆ issueSites b :=
  List.map_subset _ (List.filter_subset _ h)

theorem load_sites_mono (chain : List NameMap) (line : Nat) (st : St) (x : Var) :
    issueSites st.issues ⊆ issueSites (load chain line st x).issues := by
  refine issueSites_mono ?_
  unfold load
  split <;> exact List.subset_append_left ..

theorem loads_sites_mono (chain : List NameMap) (line : Nat) (rs : List Var) :
    ∀ st : St, issueSites st.issues ⊆ issueSites (loads chain line st rs).issues := by
  induction rs with
  | nil => exact fun _ _ h => h
  | cons r rs ih => exact fun st => (load_sites_mono chain line st r).trans (ih _)

theorem run_sites_mono (p : Prog) :
    ∀ (chain : List NameMap) (st : St), issueSites st.issues ⊆ issueSites (run p chain st).issues := by
  induction p with
  | skip => exact fun _ _ _ h => h
  | assign line x rs rest ih => exact fun chain st _ h => ih chain _ (loads_sites_mono chain line rs st h)
  | expr line rs rest ih => exact fun chain st _ h => ih chain _ (loads_sites_mono chain line rs st h)
  | ite line rs thn els rest iht ihe ihr =>
    intro chain st _ h
    rw [run]
    exact ihr chain _ (ihe _ _ (iht _ _ (loads_sites_mono chain line rs st h)))
  | «while» line rs body rest ihb ihr =>
    intro chain st _ h
    rw [run]
    exact ihr chain _ (loads_sites_mono _ line rs _ (ihb _ _ (loads_sites_mono chain line rs st h)))
  | «for» line t rs body rest ihb ihr =>
    exact fun chain st _ h => ihr chain _ (ihb chain _ (loads_sites_mono chain line rs st h))

/-- The step `st ↦ st'` of the analysis, on a path inside `chain`, covers the execution step `σ ↦ σ'` that
    reads unassigned variables at the sites `evs`: what was reported stays reported, `evs` is reported, and
    `Sound` is kept. -/
def Covers (chain : List NameMap) (st : St) (σ : List Var) (st' : St) (σ' : List Var) (evs : List (Var × Nat)) :
    Prop :=
  Sound (st.cur :: chain) σ → issueSites st.issues ++ evs ⊆ issueSites st'.issues ∧ Sound (st'.cur :: chain) σ'

theorem Covers.refl (chain : List NameMap) (st : St) (σ : List Var) : Covers chain st σ st σ [] :=
  fun h => ⟨List.append_nil _ ▸ List.Subset.refl _, h⟩

theorem Covers.trans {chain : List NameMap} {st st' st'' : St} {σ σ' σ'' : List Var} {e e' : List (Var × Nat)}
    (h : Covers chain st σ st' σ' e) (h' : Covers chain st' σ' st'' σ'' e') :
    Covers chain st σ st'' σ'' (e ++ e') := by
  intro hs
  obtain ⟨h1, h2⟩ := h hs
  obtain ⟨h1', h2'⟩ := h' h2
  rw [List.append_subset] at h1'
  exact ⟨List.append_assoc .. ▸ List.append_subset.2 ⟨h1.trans h1'.1, h1'.2⟩, h2'⟩

/-- `load_variable` is sound: it keeps the invariant and reports the read if the variable is unassigned. -/
theorem covers_load (chain : List NameMap) (line : Nat) (st : St) (σ : List Var) (x : Var) :
    Covers chain st σ (load chain line st x) σ (if x ∈ σ then [] else [(x, line)]) := by
  refine fun h => ⟨List.append_subset.2 ⟨load_sites_mono .., ?_⟩, fun y hy => h y (absSet_load .. ▸ hy)⟩
  split
  · exact List.nil_subset _
  · have : specEvents [⟨absSet (st.cur :: chain) x, x, line⟩] = [⟨absSet (st.cur :: chain) x, x, line⟩] :=
      List.filter_cons_of_pos (decide_eq_true fun hc => ‹x ∉ σ› (h x hc))
    rw [issueSites_eq, issueEvents_load, this, List.map_append]
    exact List.subset_append_right ..

theorem unsetReads_cons (σ : List Var) (line : Nat) (r : Var) (rs : List Var) :
    unsetReads σ line (r :: rs) = (if r ∈ σ then [] else [(r, line)]) ++ unsetReads σ line rs := by
  by_cases hr : r ∈ σ <;> simp [unsetReads, hr]

theorem covers_loads (chain : List NameMap) (line : Nat) (σ : List Var) (rs : List Var) :
    ∀ st : St, Covers chain st σ (loads chain line st rs) σ (unsetReads σ line rs) := by
  induction rs with
  | nil => exact fun st => Covers.refl chain st σ
  | cons r rs ih => exact fun st => unsetReads_cons .. ▸ (covers_load chain line st σ r).trans (ih _)

theorem covers_store (chain : List NameMap) (st : St) (σ : List Var) (x : Var) :
    Covers chain st σ (store st x) (x :: σ) [] := by
  refine fun h => ⟨List.append_nil _ ▸ List.Subset.refl _, fun y hy => ?_⟩
  rw [absSet_store] at hy
  split at hy
  · subst y; exact List.mem_cons_self
  · exact List.mem_cons_of_mem _ (h y hy)

/-- After `merge_paths`, "definitely set" requires "definitely set" at the end of BOTH branch paths,
    so the merged state is sound for whichever branch the execution took. -/
theorem merge_sound {parent left right : NameMap} {chain : List NameMap} {σ : List Var}
    (h : Sound (left :: parent :: chain) σ ∨ Sound (right :: parent :: chain) σ) :
    Sound (mergePaths parent left right chain :: chain) σ := by
  intro x hx
  rw [absSet_mergePaths, Cls.join_eq (t := .all) nofun] at hx
  exact h.elim (· x hx.1) (· x hx.2)

/-- The execution takes the first branch path; the analysis goes on through the second, `l ↦ r`. -/
theorem covers_left {chain : List NameMap} {st l r : St} {σ σ' : List Var} {e : List (Var × Nat)}
    (hl : Covers (st.cur :: chain) { st with cur := [] } σ l σ' e)
    (hr : issueSites ({ l with cur := [] } : St).issues ⊆ issueSites r.issues) :
    Covers chain st σ { r with cur := mergePaths st.cur l.cur r.cur chain } σ' e := by
  intro h
  obtain ⟨h1, h2⟩ := hl (sound_nil_cons h)
  exact ⟨h1.trans hr, merge_sound (.inl h2)⟩

/-- The execution takes the second branch path, after the analysis went through the first, `st ↦ l`. -/
theorem covers_right {chain : List NameMap} {st l r : St} {σ σ' : List Var} {e : List (Var × Nat)}
    (hl : issueSites ({ st with cur := [] } : St).issues ⊆ issueSites l.issues)
    (hr : Covers (st.cur :: chain) { l with cur := [] } σ r σ' e) :
    Covers chain st σ { r with cur := mergePaths st.cur l.cur r.cur chain } σ' e := by
  intro h
  obtain ⟨h1, h2⟩ := hr (sound_nil_cons h)
  rw [List.append_subset] at h1
  exact ⟨List.append_subset.2 ⟨hl.trans h1.1, h1.2⟩, merge_sound (.inr h2)⟩

/-- C09, third sentence, from any point of the visit: any chain and any state of the analysis that is
    `Sound` for the variables assigned so far. -/
theorem loops_sound {p : Prog} {σ σ' : List Var} {evs : List (Var × Nat)} (hrun : Runs p σ evs σ') :
    NoFor p = true → ∀ (chain : List NameMap) (st : St), Covers chain st σ (run p chain st) σ' evs := by
  induction hrun with
  | skip σ => exact fun _ chain st => Covers.refl chain st σ
  | @assign line x rs rest σ e σ' _ ih =>
    exact fun hnf chain st =>
      (covers_loads chain line σ rs st).trans ((covers_store chain _ σ x).trans (ih hnf chain _))
  | @expr line rs rest σ e σ' _ ih =>
    exact fun hnf chain st => (covers_loads chain line σ rs st).trans (ih hnf chain _)
  | @iteT line rs thn els rest σ e1 σ1 e2 σ2 _ _ ih1 ih2 =>
    intro hnf chain st
    simp only [NoFor, Bool.and_eq_true] at hnf
    simp only [run]
    exact (covers_loads chain line σ rs st).trans
      ((covers_left (ih1 hnf.1.1 _ _) (run_sites_mono els _ _)).trans (ih2 hnf.2 chain _))
  | @iteF line rs thn els rest σ e1 σ1 e2 σ2 _ _ ih1 ih2 =>
    intro hnf chain st
    simp only [NoFor, Bool.and_eq_true] at hnf
    simp only [run]
    exact (covers_loads chain line σ rs st).trans
      (Covers.trans (covers_right (run_sites_mono thn _ _) (ih1 hnf.1.2 _ _)) (ih2 hnf.2 chain _))
  | @whileStop line rs body rest σ e σ' _ ih =>
    intro hnf chain st
    simp only [NoFor, Bool.and_eq_true] at hnf
    simp only [run]
    -- the execution takes the empty path "e", entered and left at once
    exact (covers_loads chain line σ rs st).trans (Covers.trans
      (covers_right ((run_sites_mono body _ _).trans (loads_sites_mono _ line rs _)) (Covers.refl _ _ _))
      (ih hnf.2 chain _))
  | @whileIter line rs body rest σ e1 σ1 e2 σ2 hbody _ ih1 ih2 =>
    intro hnf chain st hs
    -- the rest of the loop, started after one iteration, is covered by the SAME analysis of the loop:
    -- the abstract entry state is still sound because assignments only accumulate
    obtain ⟨h5, h6⟩ := ih2 hnf chain st (sound_mono hs (runs_mono hbody))
    simp only [NoFor, Bool.and_eq_true] at hnf
    obtain ⟨h1, h2⟩ := covers_loads chain line σ rs st hs
    obtain ⟨h3, _⟩ := ih1 hnf.1 _ { loads chain line st rs with cur := [] } (sound_nil_cons h2)
    rw [List.append_subset] at h3 h5
    refine ⟨?_, h6⟩
    simp only [← List.append_assoc]
    refine List.append_subset.2 ⟨.trans (List.append_subset.2 ⟨h1.trans h3.1, h3.2⟩) ?_, h5.2⟩
    simp only [run]
    exact fun _ h => run_sites_mono rest chain _ (loads_sites_mono _ line rs _ h)
  | forStop => exact nofun
  | forIter => exact nofun

/-- The full-strength third sentence of C09: every read that is unassigned on some execution (any
    branch outcomes, any iteration counts) is reported at that line.  Refuted by `for` below. -/
def C09_LoopsSound_Full : Prop :=
  ∀ (p : Prog) (evs : List (Var × Nat)) (σ' : List Var), Runs p [] evs σ' →
    ∀ e ∈ evs, e ∈ issueSites (analyse p)

/-- C09, third sentence, for every program built from assignments, expressions, if/else and `while`
    (any nesting, any iteration counts): no missed uninitialised read. -/
theorem c09_loops_sound_partial (p : Prog) (h : NoFor p = true) (evs : List (Var × Nat)) (σ' : List Var)
    (hrun : Runs p [] evs σ') : ∀ e ∈ evs, e ∈ issueSites (analyse p) :=
  fun _ he => issueSites_mono (List.subset_append_left ..) ((loops_sound hrun h [] initSt sound_start).1 he)

theorem c09_loops_sound_full_of_no_for (hex : ∀ p : Prog, NoFor p = true) : C09_LoopsSound_Full :=
  fun p evs σ' hrun => c09_loops_sound_partial p (hex p) evs σ' hrun

/-- `xs = 1` / `for k in xs: x = 1` / `print(x)`. -/
def forWitness : Prog :=
  .assign 1 6 [] (.for 2 5 [6] (.assign 3 0 [] .skip) (.expr 4 [0] .skip))

theorem forWitness_runs : Runs forWitness [] [(0, 4)] [6] :=
  Runs.assign (Runs.forStop (Runs.expr (Runs.skip _)))

/-- The zero-iteration execution reads `x` unassigned at line 4; TIFA analyses the body as if it always
    ran and reports nothing there. -/
theorem c09_for_zero_iterations_counterexample : ¬ C09_LoopsSound_Full := fun hfull =>
  absurd (hfull forWitness _ _ forWitness_runs (0, 4) List.mem_cons_self) (by decide)

-- non-vacuity: a `while` program with an execution that reads an unassigned variable, reported
example : Runs (.assign 1 3 [] (.while 2 [3] (.assign 3 0 [] .skip) (.expr 4 [0] .skip))) [] [(0, 4)] [3] :=
  Runs.assign (Runs.whileStop (Runs.expr (Runs.skip _)))
example : issueSites (analyse (.assign 1 3 [] (.while 2 [3] (.assign 3 0 [] .skip) (.expr 4 [0] .skip)))) = [(0, 4)] := by
  decide

/-! ## The two concrete semantics agree on the if-subset -/

theorem specLoads_asg (line : Nat) (rs : List Var) :
    ∀ ps : List PState, (specLoads line ps rs).paths.map PState.asg = ps.map PState.asg := by
  induction rs with
  | nil => exact fun _ => rfl
  | cons r rs ih => exact fun ps => (ih _).trans (by rw [List.map_map]; rfl)

/-- The path list of `specRun` is exactly the set of complete executions of `Runs`: a final
    assigned-set is in the list iff some execution from one of the start states ends in it. -/
theorem c09_paths_are_executions (p : Prog) (h : IfOnly p = true) :
    ∀ (ps : List PState) (τ : List Var),
      τ ∈ (specRun p ps).paths.map PState.asg ↔ ∃ σ ∈ ps.map PState.asg, ∃ evs, Runs p σ evs τ := by
  induction p with
  | skip =>
    exact fun ps τ => ⟨fun hτ => ⟨τ, hτ, [], .skip τ⟩, fun ⟨σ, hσ, _, hr⟩ => by cases hr; exact hσ⟩
  | assign line x rs rest ih =>
    intro ps τ
    rw [specRun, ih h, List.map_map, ← specLoads_asg line rs ps]
    constructor
    · intro ⟨σ', hσ', evs, hr⟩
      obtain ⟨σ, hσ, rfl⟩ := List.mem_map.1 hσ'
      exact ⟨_, List.mem_map_of_mem hσ, _, .assign hr⟩
    · intro ⟨σ', hσ', evs, hr⟩
      obtain ⟨σ, hσ, rfl⟩ := List.mem_map.1 hσ'
      cases hr with
      | assign hr' => exact ⟨_, List.mem_map_of_mem (f := PState.asg ∘ (pWrite · x)) hσ, _, hr'⟩
  | expr line rs rest ih =>
    intro ps τ
    rw [specRun, ih h, specLoads_asg]
    constructor
    · exact fun ⟨σ, hσ, _, hr⟩ => ⟨σ, hσ, _, .expr hr⟩
    · intro ⟨σ, hσ, _, hr⟩
      cases hr with
      | expr hr' => exact ⟨σ, hσ, _, hr'⟩
  | ite line rs thn els rest iht ihe ihr =>
    intro ps τ
    simp only [IfOnly, Bool.and_eq_true] at h
    rw [specRun, ihr h.2, List.map_append]
    simp only [List.mem_append, iht h.1.1, ihe h.1.2, specLoads_asg]
    constructor
    · rintro ⟨σ1, ⟨σ, hσ, _, hr1⟩ | ⟨σ, hσ, _, hr1⟩, _, hr2⟩
      · exact ⟨σ, hσ, _, .iteT hr1 hr2⟩
      · exact ⟨σ, hσ, _, .iteF hr1 hr2⟩
    · intro ⟨σ, hσ, _, hr⟩
      cases hr with
      | iteT hr1 hr2 => exact ⟨_, .inl ⟨σ, hσ, _, hr1⟩, _, hr2⟩
      | iteF hr1 hr2 => exact ⟨_, .inr ⟨σ, hσ, _, hr1⟩, _, hr2⟩
  | «while» => cases h
  | «for» => cases h

end Pedal.TifaFlow
