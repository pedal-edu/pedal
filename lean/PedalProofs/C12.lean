import PedalModel.Source
/-
C12 — verify() reports a syntax error exactly when Python's parser rejects the source.
The parser is a parameter: theorems quantify over every parser outcome of the modelled shape
(tree, or an exception class with an optional line), every line offset and both pre-check flags.
-/
namespace Pedal.Source
open Pedal.Gen.Source

/-- Exception classes CPython's `ast.parse` raises for some text (3.12): rejections of the source. -/
def rejectingClasses : List String :=
  ["SyntaxError", "IndentationError", "TabError", "MemoryError", "RecursionError", "ValueError",
   "UnicodeError", "UnicodeEncodeError", "UnicodeDecodeError"]

/-- The parser outcome is a tree or one of the rejecting classes. -/
def Modelled (i : Input) : Prop := ∀ cls ln, i.parse = some (cls, ln) → cls ∈ rejectingClasses

def handlerOk (cls : String) : Bool :=
  match findHandler cls handlers with
  | some (fb, _) => isSyntaxErrorFeedback fb && fb != "opaque"
  | none => false

def handlerPassesLine (cls : String) : Bool :=
  match findHandler cls handlers with
  | some (_, kind) => kind == "lineno"
  | none => false

theorem ladder_table : rejectingClasses.all handlerOk = true ∧
    ["SyntaxError", "IndentationError", "TabError"].all handlerPassesLine = true := by decide +kernel

theorem tables_sane :
    loadErrorFeedback ≠ "opaque" ∧ loadErrorReturns = true ∧ blankFeedback ≠ "opaque" ∧ blankReturns = false ∧
    elseSetsSuccess = true ∧ isSyntaxErrorFeedback loadErrorFeedback = false ∧
    isSyntaxErrorFeedback blankFeedback = false ∧
    feedbackCategory.lookup "syntax_error" = some "syntax" ∧
    feedbackCategory.lookup "indentation_error" = some "syntax" ∧
    feedbackCategory.lookup blankFeedback = some "syntax" := by decide +kernel

/-! ### `verify` per outcome
With the tables as `tables_sane` and `ladder_table` find them, `verify` has a closed form for each outcome: load
error, tree, rejecting class. -/

/-- What the blank pre-check attaches before the parser is asked. -/
def blankPart (i : Input) : List (String × Option Nat) := if i.blank then [(blankFeedback, none)] else []

theorem blankPart_not_syntax (i : Input) : ∀ f ∈ blankPart i, isSyntaxErrorFeedback f.1 = false := by
  obtain ⟨-, -, -, -, -, -, h7, -⟩ := tables_sane
  unfold blankPart
  split <;> simp [h7]

theorem verify_loadError {i : Input} (hl : i.loadError = true) :
    verify i = { feedback := [(loadErrorFeedback, none)], success := false } := by
  obtain ⟨h1, h2, -⟩ := tables_sane
  simp [verify, hl, h1, h2]

theorem verify_parsed {i : Input} (hl : i.loadError = false) (hp : i.parse = none) :
    verify i = { feedback := blankPart i, parsedTreeStored := true } := by
  obtain ⟨-, -, h3, h4, h5, -⟩ := tables_sane
  simp [verify, blankPart, hl, hp, h3, h4, h5]

/-- Every rejecting class is caught by the generated ladder, by a handler that reports a
    syntax/indentation error. -/
theorem verify_rejected {i : Input} (hl : i.loadError = false) {cls : String} {ln : Option Nat}
    (hp : i.parse = some (cls, ln)) (hc : cls ∈ rejectingClasses) :
    ∃ fb kind, findHandler cls handlers = some (fb, kind) ∧ isSyntaxErrorFeedback fb = true ∧
      verify i = { feedback := blankPart i ++ [(fb, lineFor kind ln i.offset)], success := false } := by
  obtain ⟨-, -, h3, h4, -⟩ := tables_sane
  have hok := List.all_eq_true.mp ladder_table.1 cls hc
  unfold handlerOk at hok
  split at hok
  · rename_i fb kind hf
    simp only [Bool.and_eq_true, bne_iff_ne, ne_eq] at hok
    exact ⟨fb, kind, hf, hok.1, by simp [verify, blankPart, hl, hp, h3, h4, hf, hok.2]⟩
  · cases hok

/-- verify() never raises, whatever the (modelled) parser outcome, offset and pre-check flags. -/
theorem c12_never_raises (i : Input) (hm : Modelled i) : (verify i).raised = none := by
  cases hl : i.loadError
  · cases hp : i.parse with
    | none => rw [verify_parsed hl hp]
    | some p =>
      obtain ⟨fb, kind, -, -, hv⟩ := verify_rejected hl hp (hm _ _ hp)
      rw [hv]
  · rw [verify_loadError hl]

/-- When the text parses, the stored tree is the parser's and no syntax-error feedback is attached. -/
theorem c12_tree_stored (i : Input) (hl : i.loadError = false) (hp : i.parse = none) :
    (verify i).parsedTreeStored = true ∧ (verify i).success = true ∧
    ∀ fb ∈ (verify i).feedback, isSyntaxErrorFeedback fb.1 = false := by
  rw [verify_parsed hl hp]
  exact ⟨rfl, rfl, blankPart_not_syntax i⟩

/-- …and when it does not parse, the parser's tree is not stored and verify answers False. -/
theorem c12_rejected_not_stored (i : Input) (hm : Modelled i) (hl : i.loadError = false)
    (hp : i.parse.isSome = true) : (verify i).parsedTreeStored = false ∧ (verify i).success = false := by
  obtain ⟨⟨cls, ln⟩, hp⟩ := Option.isSome_iff_exists.mp hp
  obtain ⟨fb, kind, -, -, hv⟩ := verify_rejected hl hp (hm _ _ hp)
  rw [hv]
  exact ⟨rfl, rfl⟩

/-- A syntax/indentation error feedback is attached iff the parser rejected the text. -/
theorem c12_feedback_iff_rejected (i : Input) (hm : Modelled i) (hl : i.loadError = false) :
    (∃ fb ∈ (verify i).feedback, isSyntaxErrorFeedback fb.1 = true) ↔ i.parse.isSome = true := by
  cases hp : i.parse with
  | none =>
    refine ⟨fun ⟨f, hf, hs⟩ => ?_, nofun⟩
    rw [(c12_tree_stored i hl hp).2.2 f hf] at hs
    cases hs
  | some p =>
    obtain ⟨fb, kind, -, hs, hv⟩ := verify_rejected hl hp (hm _ _ hp)
    rw [hv]
    exact ⟨fun _ => rfl, fun _ => ⟨_, List.mem_append_right _ (List.mem_singleton_self _), hs⟩⟩

/-- Exactly one such feedback, and its line is CPython's line shifted by the section offset. -/
theorem c12_line_is_cpython_line_plus_offset (i : Input) (hl : i.loadError = false)
    (cls : String) (ln : Nat) (hp : i.parse = some (cls, some ln))
    (hc : cls ∈ ["SyntaxError", "IndentationError", "TabError"]) :
    ∃ fb, (verify i).feedback.filter (fun f => isSyntaxErrorFeedback f.1) = [(fb, some (ln + i.offset))] := by
  -- the three are the head of `rejectingClasses`
  obtain ⟨fb, kind, hf, hs, hv⟩ := verify_rejected hl hp (List.mem_append_left _ hc : cls ∈ _ ++ _)
  -- classes whose exceptions carry CPython's line: the handler passes `e.lineno`
  have hk := List.all_eq_true.mp ladder_table.2 cls hc
  simp only [handlerPassesLine, hf, beq_iff_eq] at hk
  refine ⟨fb, ?_⟩
  rw [hv, List.filter_append, List.filter_eq_nil_iff.mpr fun f h => by simp [blankPart_not_syntax i f h]]
  simp [hs, hk, lineFor]

/-- Blank source is reported as blank (and a load error as file-not-found), without raising. -/
theorem c12_blank_reported (i : Input) (hl : i.loadError = false) (hb : i.blank = true) (hm : Modelled i) :
    (blankFeedback, none) ∈ (verify i).feedback := by
  have hpre : (blankFeedback, none) ∈ blankPart i := by simp [blankPart, hb]
  cases hp : i.parse with
  | none => rw [verify_parsed hl hp]; exact hpre
  | some p =>
    obtain ⟨fb, kind, -, -, hv⟩ := verify_rejected hl hp (hm _ _ hp)
    rw [hv]
    exact List.mem_append_left _ hpre

/- Non-vacuity (evaluated tests): a TabError at CPython line 3 inside a section starting at line 2,
   a NUL byte (no line), a parser give-up. -/
#guard verify { loadError := false, blank := false, parse := some ("TabError", some 3), offset := 2 }
        == { feedback := [("indentation_error", some 5)], success := false }
#guard verify { loadError := false, blank := false, parse := some ("SyntaxError", none), offset := 0 }
        == { feedback := [("syntax_error", none)], success := false }
#guard verify { loadError := false, blank := true, parse := some ("MemoryError", none), offset := 7 }
        == { feedback := [("blank_source", none), ("syntax_error", none)], success := false }

end Pedal.Source
