import PedalProofs.SandboxExecLemmas
/-
C04 — student-code failures are contained and reported, never raised into the grader.

Statements are about `Pedal.SandboxExec.execute / stepOp / runOps` on the generated configuration `genCfg`,
for EVERY exception descriptor whose class is an Exception or SystemExit subclass (any name, any flags, any
traceback shape, raised at run time or by `compile`), every tracer style, and every history of executions.

Exception OBJECTS that make pedal's own bookkeeping raise are described by `ExcDesc.hazards`; the hazards the
tree under test does not guard are the probed table `unguarded`.  The theorems hold for every exception with no
unguarded hazard (`c04_*`, `…_partial`); the full statement and its refutation whenever the table is non-empty
are `C04_Contained_Full` / `c04_contained_counterexample`.
-/
namespace Pedal.SandboxExec
open Pedal.Gen.SandboxExec

/-- For each control signature the generated ladder returns, records a contained failure exactly once as the
    student's exception, and records nothing for a normal run - by evaluation of `plan` (48 cases). -/
theorem c04_ladder_contains : allSigs.all (checkC04 mockProbe executeDef) = true := by decide +kernel

theorem gen_checkC04 (sig : Sig) : checkC04 genCfg.probe genCfg.exec sig = true :=
  forall_sig_of_all c04_ladder_contains sig

/-- `Sandbox._import` (a student file imported by the running code) has no handlers of its own and does not touch
    the mocking: a failure inside the imported file reaches `_execute`'s ladder like any other (read from its AST). -/
theorem c04_import_transparent : importDef.transparent = true := by decide

/-- The tracer's `with self.trace.as_filename(...)` block lets every failure through unchanged: the model's
    `tracedExec` step hands `_execute`'s handlers exactly what the student code raised.  Probed on the tree under test
    for every tracer style x every exception class the sandbox's own code names and all their base classes (Exception
    and BaseException themselves, the classes of the library the `calls` style is built on, ...), entered once and
    re-entered as `_import` does: no (style, class) pair is swallowed or replaced. -/
theorem c04_tracers_let_failures_through : tracerSwallows = [] := by decide

/-- An exception C04 speaks about: Exception or SystemExit subclass. -/
def ExcDesc.containable (e : ExcDesc) : Prop := e.isException = true ∨ e.isSystemExit = true

/-- None of its hazards is one the tree leaves unguarded. -/
def ExcDesc.safe (e : ExcDesc) : Prop := hazardous unguarded e = false

instance (e : ExcDesc) : Decidable e.containable := by unfold ExcDesc.containable; infer_instance
instance (e : ExcDesc) : Decidable e.safe := by unfold ExcDesc.safe; infer_instance

/-- The call returns normally to the instructor script. -/
theorem c04_contained (style : TraceStyle) (nested : Bool) (s : St) (hs : s.Inv) (t : Termination) (e : ExcDesc)
    (ht : t.exc? = some e) (hc : e.containable) (hz : e.safe) :
    (execute genCfg style nested s t false).2 = .returned :=
  (execute_contains genCfg gen_checkC04 style nested s hs t e ht hc hz).1

/-- The failure is available as the sandbox's exception (builtin KeyError as pedal's KeyError). -/
theorem c04_exception_available (style : TraceStyle) (nested : Bool) (s : St) (hs : s.Inv) (t : Termination) (e : ExcDesc)
    (ht : t.exc? = some e) (hc : e.containable) (hz : e.safe) :
    (execute genCfg style nested s t false).1.exception = some (if e.isKeyError then "KeyError" else e.cls) :=
  (execute_contains genCfg gen_checkC04 style nested s hs t e ht hc hz).2.1

/-- Exactly one runtime feedback is added, of the class `EXCEPTION_FF_MAP` gives for the exact exception
    class (else the generic one), naming that class. -/
theorem c04_exactly_one_runtime_feedback (style : TraceStyle) (nested : Bool) (s : St) (hs : s.Inv) (t : Termination)
    (e : ExcDesc) (ht : t.exc? = some e) (hc : e.containable) (hz : e.safe) :
    ∃ fb : Fb, (execute genCfg style nested s t false).1.feedbacks = s.feedbacks ++ [fb] ∧
      fb.excName = reportedCls e ∧
      fb.label = (ffMap.lookup (reportedCls e)).getD genericLabel ∧
      fb.line = chooseLine lineStrategy e :=
  ⟨_, (execute_contains genCfg gen_checkC04 style nested s hs t e ht hc hz).2.2, rfl, rfl, rfl⟩

/-- The feedback classes are in the `runtime` category (read from `runtime_error.category`). -/
theorem c04_runtime_category : runtimeCategory = "runtime" := by decide

/-- … located on the student's own line: the innermost student-file frame of the traceback, wherever the
    exception object was created (library, pedal's mocked builtins, a called function). -/
theorem c04_location_on_student_line (style : TraceStyle) (nested : Bool) (s : St) (hs : s.Inv) (t : Termination)
    (e : ExcDesc) (ht : t.exc? = some e) (hc : e.containable) (hz : e.safe)
    (l : Nat) (hl : lastLine .student e.frames = some l) :
    ∃ fb : Fb, (execute genCfg style nested s t false).1.feedbacks = s.feedbacks ++ [fb] ∧ fb.line = some l := by
  refine ⟨_, (execute_contains genCfg gen_checkC04 style nested s hs t e ht hc hz).2.2, ?_⟩
  have hstrat : genCfg.strategy = .studentFirst := by decide
  simp [chooseLine, hstrat, hl]

/-- A compile failure with a position is located on that line when no student frame exists. -/
theorem c04_location_of_compile_failure (e : ExcDesc) (l : Nat) (hf : e.frames = []) (hl : e.synLine = some l) :
    chooseLine lineStrategy e = some l := by
  have hstrat : lineStrategy = .studentFirst := by decide
  simp [chooseLine, hstrat, hf, hl, lastLine]

/-- C05's depth independence, imported as a hypothesis (proved for the generated ladder as
    `c05_ladder_depth_independent` in PedalProofs/C05.lean): `_execute` plans the same steps whatever is already on
    the patch / stdout stacks. -/
def DepthIndependent : Prop :=
  ∀ (b : Base) (sig : Sig), plan mockProbe b sig executeDef = plan mockProbe base0 sig executeDef

/-- Containment does not depend on where the execution is started: in ANY state of the stacks - i.e. while other
    executions are in progress on the same sandbox (an input callable or a mocked builtin that runs call() /
    evaluate() / run() itself) - and whatever executions `inner` its own code starts, the call returns. -/
theorem c04_contained_when_nested (hC05 : DepthIndependent) (style : TraceStyle) (nested : Bool) (s : St)
    (inner : St → St) (t : Termination) (e : ExcDesc) (ht : t.exc? = some e) (hc : e.containable) (hz : e.safe) :
    (executeN genCfg style nested s t false inner).2 = .returned := by
  obtain ⟨hcont, hkind⟩ := sigOf_contained genCfg t e ht hc hz
  have h : (plan mockProbe base0 (sigOf genCfg t false) executeDef).2 = .returned :=
    (checkC04_failing (gen_checkC04 _) hkind hcont).1
  rwa [← hC05 (baseOf s)] at h

/-- A run that ends normally returns, reports nothing and leaves no exception. -/
theorem c04_normal_run_reports_nothing (style : TraceStyle) (nested : Bool) (s : St) (hs : s.Inv) (inject : Bool) :
    (execute genCfg style nested s .normal inject).2 = .returned ∧
    (execute genCfg style nested s .normal inject).1.exception = none ∧
    (execute genCfg style nested s .normal inject).1.feedbacks = s.feedbacks :=
  execute_normal genCfg gen_checkC04 style nested s hs inject

/-- Everything the default configuration blocks raises an ordinary Exception (probed by using each once),
    hence is contained and reported by the theorems above; the documented block list is present. -/
theorem c04_blocked_features_reported :
    blocked.all (fun b => b.isException) = true ∧
    ["compile", "eval", "exec", "globals", "exit", "open:.py", "open:write", "import:pedal", "module:pedal"].all
      (fun n => blocked.any (fun b => b.name == n)) = true := by
  decide +kernel

/-! ### Histories -/

def outcomes (cfg : Cfg) : St → List Op → List Outcome
  | _, [] => []
  | s, op :: ops => (stepOp cfg s op).2.1 :: outcomes cfg (stepOp cfg s op).1 ops

/-- The op runs student code that fails. -/
def Op.fails (op : Op) : Bool := op.executes && op.term.exc?.isSome

/-- An op within C04's quantifier: no injected fault, a restoring tracer style, and a containable, safe failure. -/
def Op.Contained (op : Op) : Prop :=
  op.inject = false ∧ TraceOK op.style op.nested ∧ ∀ e, op.term.exc? = some e → e.containable ∧ e.safe

/-- One execution within C04's quantifier returns, and adds one feedback exactly when the code fails. -/
theorem execute_contained (style : TraceStyle) (nested : Bool) (s : St) (hs : s.Inv) (t : Termination)
    (ht : ∀ e, t.exc? = some e → e.containable ∧ e.safe) :
    (execute genCfg style nested s t false).2 = .returned ∧
    (execute genCfg style nested s t false).1.feedbacks.length =
      s.feedbacks.length + (if t.exc?.isSome then 1 else 0) := by
  cases h : t.exc? with
  | some e =>
    have h' := execute_contains genCfg gen_checkC04 style nested s hs t e h (ht e h).1 (ht e h).2
    exact ⟨h'.1, (congrArg List.length h'.2.2).trans List.length_append⟩
  | none =>
    cases t <;> cases h
    have h' := c04_normal_run_reports_nothing style nested s hs false
    exact ⟨h'.1, congrArg List.length h'.2.2⟩

theorem stepOp_contained (s : St) (hs : s.Inv) (op : Op) (hop : op.Contained) :
    (stepOp genCfg s op).2.1 = .returned ∧
    (stepOp genCfg s op).1.feedbacks.length = s.feedbacks.length + (if op.fails then 1 else 0) := by
  obtain ⟨entry, style, nested, inject, term⟩ := op
  obtain ⟨rfl, -, hexc⟩ := hop
  have key := execute_contained style nested s hs term hexc
  rcases entry with _ | (_ | _) | _ <;> simp [stepOp, Op.fails, Op.executes, key]

/-- C05's invariant, imported as a hypothesis (proved for the generated configuration as
    `c05_restored_after_op` in PedalProofs/C05.lean): an execution started with empty patch / stdout stacks
    ends with empty stacks. -/
def StacksRestored : Prop :=
  ∀ (s : St) (op : Op), s.Inv → TraceOK op.style op.nested → (stepOp genCfg s op).1.Inv

/-- Over ANY sequence of run / call / evaluate whose failures are containable: every call returns to the
    instructor script and each failing execution adds exactly one runtime feedback. -/
theorem c04_history (hC05 : StacksRestored) (ops : List Op) (hops : ∀ op ∈ ops, op.Contained) (s : St)
    (hs : s.Inv) :
    (∀ o ∈ outcomes genCfg s ops, o = .returned) ∧
    (runOps genCfg s ops).feedbacks.length = s.feedbacks.length + (ops.filter Op.fails).length := by
  induction ops generalizing s with
  | nil => simp [outcomes, runOps]
  | cons op ops ih =>
    obtain ⟨hop, hops⟩ := List.forall_mem_cons.mp hops
    have h1 := stepOp_contained s hs op hop
    have h2 := ih hops _ (hC05 s op hs hop.2.1)
    refine ⟨List.forall_mem_cons.mpr ⟨h1.1, h2.1⟩, ?_⟩
    simp only [runOps]
    rw [h2.2, h1.2, List.filter_cons]
    cases op.fails
    · rfl
    · exact Nat.add_right_comm ..

/-- Non-vacuity (evaluated): ZeroDivisionError inside a called function, then `sys.exit()`, then a clean run. -/
def exampleZde : ExcDesc :=
  { cls := "ZeroDivisionError", isException := true, isSystemExit := false, isKeyError := false, hazards := [],
    synLine := none, frames := [{ kind := .instructor, line := 1 }, { kind := .student, line := 3 }] }
def exampleExit : ExcDesc :=
  { cls := "SystemExit", isException := false, isSystemExit := true, isKeyError := false, hazards := [],
    synLine := none, frames := [{ kind := .student, line := 2 }] }
def exampleStyle04 : TraceStyle := { name := "native", installs := true, restores := true, restoresNested := true }
def exampleOps04 : List Op :=
  [{ entry := .call true, style := exampleStyle04, nested := true, inject := false, term := .raised exampleZde },
   { entry := .run, style := exampleStyle04, nested := false, inject := false, term := .raised exampleExit },
   { entry := .run, style := exampleStyle04, nested := false, inject := false, term := .normal }]

example : (runOps genCfg St.init exampleOps04).feedbacks =
    [{ label := "zero_division_error", excName := "ZeroDivisionError", line := some 3 },
     { label := "runtime_error", excName := "SystemExit", line := some 2 }] := by decide +kernel
example : exampleZde.containable ∧ exampleZde.safe := by decide

/-! ### The full statement over every exception object, and the region where it fails -/

/-- The property as stated: whatever exception OBJECT the student code raises. -/
def C04_Contained_Full : Prop :=
  ∀ (style : TraceStyle) (nested : Bool) (s : St), s.Inv → ∀ (t : Termination) (e : ExcDesc), t.exc? = some e → e.containable →
    (execute genCfg style nested s t false).2 = .returned

/-- Excluded region: the exception object has a hazard the tree does not guard. -/
def ExcludedExc (e : ExcDesc) : Bool := hazardous unguarded e

theorem c04_contained_partial (style : TraceStyle) (nested : Bool) (s : St) (hs : s.Inv) (t : Termination) (e : ExcDesc)
    (ht : t.exc? = some e) (hc : e.containable) (hx : ExcludedExc e = false) :
    (execute genCfg style nested s t false).2 = .returned :=
  c04_contained style nested s hs t e ht hc hx

theorem c04_contained_full_of_no_excluded (h : ∀ e, ExcludedExc e = false) : C04_Contained_Full :=
  fun style nested s hs t e ht hc => c04_contained_partial style nested s hs t e ht hc (h e)

/-- In the generated ladder, an Exception whose recording raises is not contained (evaluated, all signatures). -/
def escapeCheck : Bool :=
  allSigs.all fun sig =>
    !(sig.kind == .raised && sig.isException && sig.captureFails && !sig.injected) ||
      (plan mockProbe base0 sig executeDef).2 != .returned

/-- Whenever the probe table lists an unguarded hazard, the full statement is false: an Exception subclass
    whose instances have that hazard escapes `_execute` from the initial state. -/
theorem c04_contained_counterexample (hx : unguarded ≠ []) (hc : escapeCheck = true) : ¬ C04_Contained_Full := by
  intro hfull
  obtain ⟨h, rest, hu⟩ := List.exists_cons_of_ne_nil hx
  let e : ExcDesc := { cls := "E", isException := true, isSystemExit := false, isKeyError := false,
                       hazards := [h], synLine := none, frames := [{ kind := .student, line := 1 }] }
  have hret := hfull exampleStyle04 false St.init (by decide) (.raised e) e rfl (Or.inl rfl)
  have hhaz : hazardous unguarded e = true := by simp [hazardous, e, hu]
  have hesc := forall_sig_of_all hc (sigOf genCfg (.raised e) false)
  have hb : baseOf St.init = base0 := by decide
  simp [execute, hb, sigOf, genCfg, hhaz, e] at hesc hret
  exact hesc hret

/-- The counterexample applies to the tree under test exactly when the table is non-empty (evaluated). -/
theorem c04_counterexample_applies : unguarded ≠ [] → escapeCheck = true := by decide +kernel

end Pedal.SandboxExec
