import PedalModel.Proxy
/-
Lemmas for C16 about the protocol model and plan interpreter in PedalModel/Proxy.lean, for an arbitrary
type table and an arbitrary proxy class.  The property theorems (PedalProofs/C16.lean) instantiate them with the
generated plans.
-/
namespace Pedal.Proxy

/-- `v'` is what a transparent proxy operation may hand back for a raw result `v`: the value or a proxy of it. -/
def Faithful (v v' : Val) : Prop := v' = v ∨ v' = .proxy v

/-- Transparency of one operation: `real` on the raw operands, `prox` with proxies placed.
If the raw operation yields a value, the proxied one yields that value (possibly wrapped again), prints nothing
and — for an ordinary value — is neither NotImplemented nor a wrapped NotImplemented; if the raw operation
raises, so does the proxied one. -/
def Transparent (real prox : Out) : Prop :=
  (∀ v, real.res = .ret v →
    ∃ v', prox.res = .ret v' ∧ Faithful v v' ∧ prox.printed = false ∧
      (∀ i, v = .raw i → v' ≠ .notImpl ∧ v' ≠ .proxy .notImpl)) ∧
  (∀ e, real.res = .raise e → ∃ e', prox.res = .raise e')

theorem faithful_raw {i : Nat} {v' : Val} (h : Faithful (.raw i) v') : v' ≠ .notImpl ∧ v' ≠ .proxy .notImpl := by
  rcases h with h | h <;> subst h <;> constructor <;> intro h' <;> cases h'

theorem transparent_refl (o : Out) (h : o.printed = false) : Transparent o o :=
  ⟨fun v hv => ⟨v, hv, Or.inl rfl, h, fun _ hi => by subst hi; exact faithful_raw (Or.inl rfl)⟩, fun e he => ⟨e, he⟩⟩

theorem transparent_wrap (o : Out) (h : o.printed = false) : Transparent o (wrapOut true o) := by
  constructor
  · intro v hv
    refine ⟨.proxy v, ?_, Or.inr rfl, ?_, fun _ hi => by subst hi; exact faithful_raw (Or.inr rfl)⟩
    · simp [wrapOut, hv]
    · simp [wrapOut, hv, h]
  · intro e he
    exact ⟨e, by simp [wrapOut, he]⟩

@[simp] theorem wrapOut_false (o : Out) : wrapOut false o = o := by
  unfold wrapOut; split <;> rfl

theorem transparent_wrapOut (w : Bool) (o : Out) (h : o.printed = false) : Transparent o (wrapOut w o) := by
  cases w
  · rw [wrapOut_false]; exact transparent_refl o h
  · exact transparent_wrap o h

/-! ### `orElse` / `dispatchCore` -/

theorem orElse_of_ne (a : Out) (b : Unit → Out) (h : a.res ≠ .ret .notImpl) : a.orElse b = a := by
  unfold Out.orElse
  split
  · next h' => exact absurd h' h
  · rfl

theorem orElse_declined (b : Unit → Out) : declined.orElse b = b () := by
  simp [Out.orElse, declined]

theorem orElse_quiet_NI (b : Unit → Out) : (quiet (.ret .notImpl)).orElse b = b () := by
  simp [Out.orElse, quiet]

theorem orElse_printed (a : Out) (b : Unit → Out) (ha : a.printed = false) (hb : (b ()).printed = false) :
    (a.orElse b).printed = false := by
  unfold Out.orElse
  split <;> simp [ha, hb]

theorem orElse_res_NI (a : Out) (b : Unit → Out) (h : (a.orElse b).res = .ret .notImpl) :
    (b ()).res = .ret .notImpl := by
  unfold Out.orElse at h
  split at h
  · simpa using h
  · next h' => exact absurd h h'

theorem dispatchCore_printed (ra rf : Bool) (fwd refl : Option (Unit → Out)) (fb : Unit → Out)
    (hf : (tryOpt fwd).printed = false) (hr : (tryOpt refl).printed = false) (hb : (fb ()).printed = false) :
    (dispatchCore ra rf fwd refl fb).printed = false := by
  unfold dispatchCore
  split
  · exact orElse_printed _ _ hr (orElse_printed _ _ hf hb)
  · refine orElse_printed _ _ hf (orElse_printed _ _ ?_ hb)
    split
    · exact hr
    · rfl

theorem dispatchCore_ne_NI (ra rf : Bool) (fwd refl : Option (Unit → Out)) (fb : Unit → Out)
    (hb : (fb ()).res ≠ .ret .notImpl) : (dispatchCore ra rf fwd refl fb).res ≠ .ret .notImpl := by
  intro h
  unfold dispatchCore at h
  split at h
  · exact hb (orElse_res_NI _ _ (orElse_res_NI _ _ h))
  · exact hb (orElse_res_NI _ _ (orElse_res_NI _ _ h))

theorem binaryOp_printed (T : TypeTable) (op : BinOp) (l r : Nat) : (binaryOp T op l r).printed = false := by
  unfold binaryOp
  apply dispatchCore_printed
  · cases nbSlot T (T.cls l) op.dunder <;> rfl
  · cases nbSlot T (T.cls r) op.rdunder <;> rfl
  · rfl

/-- A comparison never evaluates to the NotImplemented singleton (its fallback is identity or TypeError). -/
theorem binaryOp_cmp_ne_NI (T : TypeTable) (op : BinOp) (l r : Nat) (h : op.isCmp = true) :
    (binaryOp T op l r).res ≠ .ret .notImpl := by
  unfold binaryOp
  apply dispatchCore_ne_NI
  cases op <;> simp [BinOp.isCmp] at h <;> simp [fallback, quiet]

theorem wrapOut_true_ne_NI (o : Out) : (wrapOut true o).res ≠ .ret .notImpl := by
  unfold wrapOut
  cases h : o.res <;> simp [h]

theorem withPrint_false (o : Out) : withPrint false o = o := by
  unfold withPrint
  cases o with
  | mk res printed => cases res <;> simp

/-! ### The proxy on the left -/

/-- A forward method of the canonical shape evaluates the operator itself on the unwrapped operands. -/
theorem runPlan_infix (T : TypeTable) (op : BinOp) (a b : Arg) (w : Bool) (self : Nat) (other : Operand) :
    runPlan T (.plan ⟨.infix op a b, none, false, w, true⟩) self other
      = wrapOut w (binaryOp T op (pick self other.id a) (pick self other.id b)) := by
  cases other <;> simp [runPlan, evalBin, withPrint_false]

/-- What a method of the canonical shape hands back is never the NotImplemented singleton itself: it is wrapped, or
it is the result of a comparison. -/
theorem wrapOut_binaryOp_ne_NI (T : TypeTable) (op : BinOp) (w : Bool) (l r : Nat) (hw : w = true ∨ op.isCmp = true) :
    (wrapOut w (binaryOp T op l r)).res ≠ .ret .notImpl := by
  cases w
  · rw [wrapOut_false]; exact binaryOp_cmp_ne_NI T op l r (hw.resolve_left Bool.false_ne_true)
  · exact wrapOut_true_ne_NI _

/-- With the proxy as left operand its forward method answers first, and it never declines. -/
theorem outerBinary_left (T : TypeTable) (P : ProxyClass) (op : BinOp) (w : Bool) (l : Nat) (ro : Operand)
    (hentry : P.entry op.dunder = some (.plan ⟨.infix op .self .other, none, false, w, true⟩))
    (hw : w = true ∨ op.isCmp = true) :
    outerBinary T P op (.proxy l) ro = wrapOut w (binaryOp T op l ro.id) := by
  cases ro <;>
    simp only [outerBinary, hentry, Option.map_some, dispatchCore, tryOpt, Bool.false_eq_true, if_false,
      runPlan_infix, pick, Operand.id] <;>
    exact orElse_of_ne _ _ (wrapOut_binaryOp_ne_NI T op w l _ hw)

theorem transparent_left (T : TypeTable) (P : ProxyClass) (op : BinOp) (w : Bool) (l : Nat) (ro : Operand)
    (hentry : P.entry op.dunder = some (.plan ⟨.infix op .self .other, none, false, w, true⟩))
    (hw : w = true ∨ op.isCmp = true) :
    Transparent (binaryOp T op l ro.id) (outerBinary T P op (.proxy l) ro) := by
  rw [outerBinary_left T P op w l ro hentry hw]
  exact transparent_wrapOut w _ (binaryOp_printed T op l ro.id)

/-! ### The proxy on the right -/

/-- With the proxy as right operand the left operand's own method runs first.  Where it declines, the proxy's
reflected method answers: of the canonical shape, evaluating an operator `op'` on the unwrapped operands that gives
what `l <op> r` gives (`op` itself with the operands back in order, or the mirrored comparison).  Where it is
duck-typed code that answers, CPython would have asked it first on the raw operands too (`RightOK`). -/
theorem outerBinary_right (T : TypeTable) (P : ProxyClass) (op op' : BinOp) (a b : Arg) (w : Bool) (l r : Nat)
    (hentry : P.entry op.rdunder = some (.plan ⟨.infix op' a b, none, false, w, true⟩))
    (hw : w = true ∨ op.isCmp = true)
    (hreal : binaryOp T op' (pick r l a) (pick r l b) = binaryOp T op l r)
    (hok : RightOK T op l r = true) :
    Transparent (binaryOp T op l r) (outerBinary T P op (.raw l) (.proxy r)) := by
  have hRT := transparent_wrapOut w _ (binaryOp_printed T op l r)
  have hfb : ∀ fb : Unit → Out, (wrapOut w (binaryOp T op l r)).orElse fb = wrapOut w (binaryOp T op l r) :=
    fun fb => orElse_of_ne _ _ (wrapOut_binaryOp_ne_NI T op w l r hw)
  unfold RightOK at hok
  simp only [outerBinary, hentry, Option.map_some, runPlan_infix, Operand.id, hreal, dispatchCore,
    Bool.false_eq_true, if_false, Operand.isProxy, Bool.false_and, Bool.not_false, Bool.or_true, if_true, tryOpt, hfb]
  cases hs : nbSlot T (T.cls l) op.dunder with
  | none => simp only [Option.map_none, orElse_declined]; exact hRT
  | some s =>
    simp only [hs] at hok
    simp only [Option.map_some, callReal]
    cases hf : T.foreign s with
    | sees => simp [hf] at hok
    | declines => simp only [orElse_quiet_NI]; exact hRT
    | blind =>
      simp only [hf, Bool.not_eq_true'] at hok
      by_cases hni : T.call s l r = .ret .notImpl
      · simp only [hni, orElse_quiet_NI]; exact hRT
      · have hne : (quiet (T.call s l r)).res ≠ .ret .notImpl := hni
        have hraw : binaryOp T op l r = quiet (T.call s l r) := by
          unfold binaryOp
          simp only [hok, dispatchCore, Bool.false_eq_true, if_false, hs, Option.map_some, tryOpt]
          exact orElse_of_ne _ _ hne
        simp only [orElse_of_ne _ _ hne, hraw]
        exact transparent_refl _ rfl

/-! ### Conversions -/

theorem applyPost_printed (T : TypeTable) (p : Option Post) (v : Val) (printed : Bool) :
    (applyPost T p v printed).printed = printed := by
  unfold applyPost
  split
  · rfl
  · split <;> rfl

theorem finishStep_printed (T : TypeTable) (st : Step) (o : Out) : (finishStep T st o).printed = o.printed := by
  unfold finishStep
  split
  · split
    · exact applyPost_printed ..
    · split
      · exact applyPost_printed ..
      · rfl
      · rfl
  · rfl

theorem runChain_printed (T : TypeTable) (slot : Dunder → Option (Unit → Out)) (fb : Unit → Out)
    (hs : ∀ d, (tryOpt (slot d)).printed = false) (hb : (fb ()).printed = false) :
    ∀ chain, (runChain T slot fb chain).printed = false := by
  intro chain
  induction chain with
  | nil => exact hb
  | cons st rest ih =>
    unfold runChain
    have hd := hs st.d
    cases h : slot st.d with
    | none => simpa using ih
    | some g =>
      rw [h] at hd
      exact (finishStep_printed T st _).trans hd

theorem convOp_printed (T : TypeTable) (c : Conv) (v : Nat) : (convOp T c v).printed = false := by
  unfold convOp
  apply runChain_printed
  · intro d
    cases T.lookup (T.cls v) d <;> rfl
  · rfl

def Stable (T : TypeTable) (st : Step) (o : Out) : Prop := stableB T st o = true

theorem finishStep_transparent (T : TypeTable) (st : Step) (o : Out) (hq : o.printed = false)
    (hst : Stable T st o) : Transparent o (finishStep T st o) := by
  cases o with
  | mk res printed =>
    simp only at hq; subst hq
    cases res with
    | ret r =>
      have : finishStep T st ⟨.ret r, false⟩ = ⟨.ret r, false⟩ := by simpa [Stable, stableB] using hst
      rw [this]; exact transparent_refl _ rfl
    | raise e => exact transparent_refl _ rfl
    | unmodelled => exact transparent_refl _ rfl

theorem finishStep_unchecked (T : TypeTable) (st : Step) (o : Out) (hc : st.check = none) (hp : st.post = none) :
    finishStep T st o = o := by
  unfold finishStep
  rw [hc, hp]
  cases o with
  | mk res printed => cases res <;> rfl

/-- A conversion method of the shape `return <builtin>(self.value)` (wrapped only where CPython does not
type-check the result). -/
theorem outerConv_builtin (T : TypeTable) (P : ProxyClass) (c : Conv) (v : Nat) (st : Step) (rest : List Step)
    (w u : Bool) (hchain : c.chain = st :: rest)
    (hentry : P.entry st.d = some (.plan ⟨.builtin c, none, false, w, u⟩))
    (hw : w = true → st.check = none ∧ st.post = none)
    (hst : w = false → Stable T st (convOp T c v)) :
    Transparent (convOp T c v) (outerConv T P c (.proxy v)) := by
  simp only [outerConv, hchain, runChain, hentry, Option.map_some, runPlan1, evalUn, withPrint_false]
  cases w with
  | false =>
    rw [wrapOut_false]
    exact finishStep_transparent T st _ (convOp_printed T c v) (hst rfl)
  | true =>
    rw [finishStep_unchecked T st _ (hw rfl).1 (hw rfl).2]
    exact transparent_wrap _ (convOp_printed T c v)

/-- A conversion method of the shape `return [wrap] self.value.__d__()` for a builtin that consults only `__d__`. -/
theorem outerConv_method1 (T : TypeTable) (P : ProxyClass) (c : Conv) (v : Nat) (st : Step) (w u : Bool)
    (hchain : c.chain = [st])
    (hentry : P.entry st.d = some (.plan ⟨.method1 st.d, none, false, w, u⟩))
    (hw : w = true → st.check = none ∧ st.post = none)
    (hfb : T.lookup (T.cls v) st.d = none → ∀ r, T.convFallback c v ≠ .ret r) :
    Transparent (convOp T c v) (outerConv T P c (.proxy v)) := by
  simp only [outerConv, convOp, hchain, runChain, hentry, Option.map_some, runPlan1, evalUn, withPrint_false]
  cases hl : T.lookup (T.cls v) st.d with
  | none =>
    simp only [Option.map_none]
    exact ⟨fun r hr => absurd hr (hfb hl r), fun e _ => ⟨T.attrErr, by simp [wrapOut, quiet, finishStep]⟩⟩
  | some s =>
    simp only [Option.map_some]
    cases w with
    | false =>
      rw [wrapOut_false]
      exact transparent_refl _ (finishStep_printed T st _)
    | true =>
      rw [finishStep_unchecked T st _ (hw rfl).1 (hw rfl).2, finishStep_unchecked T st _ (hw rfl).1 (hw rfl).2]
      exact transparent_wrap _ rfl

/-! ### Containers -/

theorem getitemOp_printed (T : TypeTable) (c k : Nat) : (getitemOp T c k).printed = false := by
  unfold getitemOp; split <;> rfl

theorem containsOp_printed (T : TypeTable) (c k : Nat) : (containsOp T c k).printed = false := by
  unfold containsOp
  split
  · rfl
  · exact finishStep_printed T _ _

theorem outerGetitem_subscript (T : TypeTable) (P : ProxyClass) (c k : Nat) (w u : Bool)
    (hentry : P.entry .getitem = some (.plan ⟨.subscript, none, false, w, u⟩)) :
    Transparent (getitemOp T c k) (outerGetitem T P (.proxy c) k) := by
  simp only [outerGetitem, hentry, runPlan, evalBin, withPrint_false, Operand.id]
  exact transparent_wrapOut w _ (getitemOp_printed T c k)

theorem outerContains_isIn (T : TypeTable) (P : ProxyClass) (c k : Nat) (u : Bool)
    (hentry : P.entry .contains = some (.plan ⟨.isIn, none, false, false, u⟩))
    (hst : Stable T ⟨.contains, none, some .truth⟩ (containsOp T c k)) :
    Transparent (containsOp T c k) (outerContains T P (.proxy c) k) := by
  simp only [outerContains, hentry, runPlan, evalBin, withPrint_false, Operand.id, wrapOut_false]
  exact finishStep_transparent T _ _ (containsOp_printed T c k) hst

/-! ### isinstance -/

theorem outerIsinstance_spoof (T : TypeTable) (P : ProxyClass) (v C : Nat) (hs : P.spoofsClass = true)
    (hC : T.isSub T.proxyCls C = false) :
    outerIsinstance T P (.proxy v) C = isinstanceOp T v C := by
  simp only [outerIsinstance, isinstanceOp, isinstanceCore, hs, if_true, hC, Bool.false_or, bne_self_eq_false,
    Bool.false_and, Bool.or_false]
  by_cases h : T.cls v = T.proxyCls <;> simp [h, hC]

end Pedal.Proxy
