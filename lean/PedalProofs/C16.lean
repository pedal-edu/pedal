import PedalModel.Proxy
import PedalModel.Gen.ProxyPlans
import PedalProofs.ProxyLemmas
/-
C16 — the result proxy is transparent for every operation that works on the real value.

One theorem per family, each about `Pedal.Gen.Proxy.proxyClass` (the plans read from pedal/sandbox/result.py on
this run) and the protocol model `binaryOp` / `convOp` / … that the driver executes, for EVERY type table,
operand and placement.  `Transparent real prox` (ProxyLemmas) is the property's sentence: a value on the raw
operands ⇒ the same value (possibly wrapped again), nothing printed, not NotImplemented; an exception on the raw
operands ⇒ an exception.

Where transparency cannot hold for all tables the hypothesis is explicit and decidable, the driver reports it per
request (`excluded=`), and the full statement is refuted below:
* proxy on the right: the LEFT operand's own method runs first and sees a foreign object. `RightOK` asks that it
  either declines (all C number slots) or is duck-typed Python code (and then that CPython's subclass-first rule,
  which the proxy hides, does not apply). `str.__mod__` is the builtin slot that violates it (open finding).
* comparisons with the proxy on the right are answered by the mirrored method (`l < P(r)` runs `r > l`): needs the
  operands' `<`/`>` to agree (true for every builtin type; part of the hypothesis, checked per request).
* conversions: CPython's own result must pass the return-type check of the method it is routed through
  (`Stable`: `float(x)` is a float, `len(x)` an int ≥ 0, …), and a builtin whose only method is missing raises.
-/
namespace Pedal.Proxy
open Pedal.Gen.Proxy

/-! ## What the generated class looks like (closed by evaluation over the regenerated table) -/

theorem gen_arith (op : BinOp) (h : op.isCmp = false) :
    proxyClass.entry op.dunder = some (Plan.infixFwd op) ∧ proxyClass.entry op.rdunder = some (Plan.infixRefl op) := by
  revert h
  cases op <;> decide +kernel

theorem gen_cmp (op : BinOp) (h : op.isCmp = true) :
    proxyClass.entry op.dunder = some (Plan.cmp op) ∧ proxyClass.entry op.rdunder = some (Plan.cmp op.swapped) := by
  revert h
  cases op <;> decide +kernel

/-- The shape each one-operand method must have: the builtin itself on the wrapped value, re-wrapped only where
CPython does not type-check the method's result; or the method called by hand where the builtin consults nothing else. -/
inductive ConvShape where
  | builtin (w : Bool)
  | method1 (w : Bool)
  deriving DecidableEq, Repr

def ConvShape.entry (c : Conv) (d : Dunder) : ConvShape → PlanEntry
  | .builtin w => .plan ⟨.builtin c, none, false, w, false⟩
  | .method1 w => .plan ⟨.method1 d, none, false, w, false⟩

def headStep (c : Conv) : Step := c.chain.headD ⟨.neg, none, none⟩

/-- Does the generated method for `c`'s first dunder have one of the transparent shapes? -/
def convShapeOf (c : Conv) : Option ConvShape :=
  let st := headStep c
  let unchecked := st.check.isNone && st.post.isNone
  let cands : List ConvShape :=
    [.builtin false] ++ (if unchecked then [.builtin true] else []) ++
    (if c.chain.length = 1 then [.method1 false] ++ (if unchecked then [.method1 true] else []) else [])
  cands.find? fun sh => proxyClass.entry st.d == some (sh.entry c st.d)

theorem gen_conv (c : Conv) : (convShapeOf c).isSome = true := by
  cases c <;> decide +kernel

/-- `__getitem__` subscripts the wrapped value (result wrapped or not: both are transparent). -/
theorem gen_getitem : ∃ w u, proxyClass.entry .getitem = some (.plan ⟨.subscript, none, false, w, u⟩) := by
  first
    | exact ⟨true, false, by decide⟩
    | exact ⟨false, false, by decide⟩
    | exact ⟨true, true, by decide⟩
    | exact ⟨false, true, by decide⟩

/-- `__contains__` evaluates `item in value` (needle unwrapped or not). -/
theorem gen_contains : ∃ u, proxyClass.entry .contains = some (.plan ⟨.isIn, none, false, false, u⟩) := by
  first
    | exact ⟨true, by decide⟩
    | exact ⟨false, by decide⟩

/-! ## Families -/

/-- Binary arithmetic / bitwise / shift operators, proxy as left operand or both operands. -/
theorem c16_binary (T : TypeTable) (op : BinOp) (l r : Nat) (hop : op.isCmp = false) (ro : Operand)
    (hro : ro.id = r) :
    Transparent (binaryOp T op l r) (outerBinary T proxyClass op (.proxy l) ro) :=
  hro ▸ transparent_left T proxyClass op true l ro (gen_arith op hop).1 (Or.inl rfl)

/-- The same operators with the proxy as right operand (reflected methods). -/
theorem c16_reflected (T : TypeTable) (op : BinOp) (l r : Nat) (hop : op.isCmp = false)
    (hok : RightOK T op l r = true) :
    Transparent (binaryOp T op l r) (outerBinary T proxyClass op (.raw l) (.proxy r)) :=
  outerBinary_right T proxyClass op op .other .self true l r (gen_arith op hop).2 (Or.inl rfl) rfl hok

/-- Comparisons, every placement. -/
theorem c16_comparison (T : TypeTable) (op : BinOp) (l r : Nat) (hop : op.isCmp = true) (pl : Placement)
    (hok : pl = .right → RightOK T op l r = true ∧ binaryOp T op.swapped r l = binaryOp T op l r) :
    Transparent (binaryOp T op l r)
      (outerBinary T proxyClass op (pl.operands l r).1 (pl.operands l r).2) := by
  cases pl with
  | left => exact transparent_left T proxyClass op false l (.raw r) (gen_cmp op hop).1 (Or.inr hop)
  | both => exact transparent_left T proxyClass op false l (.proxy r) (gen_cmp op hop).1 (Or.inr hop)
  | right =>
    exact outerBinary_right T proxyClass op op.swapped .self .other false l r (gen_cmp op hop).2 (Or.inr hop)
      (hok rfl).2 (hok rfl).1

/-- Hypotheses of the one-operand families, per request. -/
def ConvOK (T : TypeTable) (c : Conv) (v : Nat) : Prop :=
  match convShapeOf c with
  | some (.builtin false) => Stable T (headStep c) (convOp T c v)
  | some (.builtin true) => True
  | some (.method1 _) => T.lookup (T.cls v) (headStep c).d = none → ∀ r, T.convFallback c v ≠ .ret r
  | none => False

theorem chain_eq_cons (c : Conv) : c.chain = headStep c :: c.chain.tail := by
  cases c <;> rfl

/-- A shape is a candidate only where it is transparent: re-wrapping where CPython neither checks nor post-processes
the method's result, the method called by hand where the builtin consults nothing else. -/
theorem convShape_sound (c : Conv) (sh : ConvShape) (h : convShapeOf c = some sh) :
    ((sh = .builtin true ∨ sh = .method1 true) → (headStep c).check = none ∧ (headStep c).post = none) ∧
    (∀ w, sh = .method1 w → c.chain = [headStep c]) := by
  have hmem := List.mem_of_find?_eq_some h
  simp only [List.mem_append, List.mem_singleton, Bool.and_eq_true, Option.isNone_iff_eq_none] at hmem
  refine ⟨?_, fun w hsh => ?_⟩
  · rintro (rfl | rfl) <;> split at hmem <;> simp_all
  · have hlen : c.chain.length = 1 := by
      subst hsh
      split at hmem <;> simp_all
    obtain ⟨st, hst⟩ := List.length_eq_one_iff.mp hlen
    rw [headStep, hst]; rfl

theorem conv_transparent (T : TypeTable) (c : Conv) (v : Nat) (hok : ConvOK T c v) :
    Transparent (convOp T c v) (outerConv T proxyClass c (.proxy v)) := by
  unfold ConvOK at hok
  cases hsh : convShapeOf c with
  | none => exact (hsh ▸ hok).elim
  | some sh =>
    rw [hsh] at hok
    have hentry : proxyClass.entry (headStep c).d = some (sh.entry c (headStep c).d) := by
      simpa using List.find?_some hsh
    obtain ⟨hunchecked, hsingle⟩ := convShape_sound c sh hsh
    cases sh with
    | builtin w =>
      exact outerConv_builtin T proxyClass c v (headStep c) c.chain.tail w false (chain_eq_cons c) hentry
        (fun hw => hunchecked (Or.inl (hw ▸ rfl))) (fun hw => by subst hw; exact hok)
    | method1 w =>
      exact outerConv_method1 T proxyClass c v (headStep c) w false (hsingle w rfl) hentry
        (fun hw => hunchecked (Or.inr (hw ▸ rfl))) hok

def Conv.isUnary : Conv → Bool
  | .neg | .pos | .abs | .invert => true
  | _ => false

def Conv.isContainer : Conv → Bool
  | .len | .iter | .reversed => true
  | _ => false

/-- Unary operators `-x +x abs(x) ~x`. -/
theorem c16_unary (T : TypeTable) (c : Conv) (v : Nat) (_hc : c.isUnary = true) (hok : ConvOK T c v) :
    Transparent (convOp T c v) (outerConv T proxyClass c (.proxy v)) :=
  conv_transparent T c v hok

/-- `hash bool str repr format int float complex round trunc floor ceil index`. -/
theorem c16_conversion (T : TypeTable) (c : Conv) (v : Nat) (_hc : c.isUnary = false ∧ c.isContainer = false)
    (hok : ConvOK T c v) :
    Transparent (convOp T c v) (outerConv T proxyClass c (.proxy v)) :=
  conv_transparent T c v hok

/-- Containers: `len iter reversed`, indexing and membership in the proxied container. -/
theorem c16_container (T : TypeTable) :
    (∀ c v, c.isContainer = true → ConvOK T c v →
        Transparent (convOp T c v) (outerConv T proxyClass c (.proxy v))) ∧
    (∀ c k, Transparent (getitemOp T c k) (outerGetitem T proxyClass (.proxy c) k)) ∧
    (∀ c k, Stable T ⟨.contains, none, some .truth⟩ (containsOp T c k) →
        Transparent (containsOp T c k) (outerContains T proxyClass (.proxy c) k)) := by
  refine ⟨fun c v _ hok => conv_transparent T c v hok, fun c k => ?_, fun c k hst => ?_⟩
  · obtain ⟨w, u, h⟩ := gen_getitem
    exact outerGetitem_subscript T proxyClass c k w u h
  · obtain ⟨u, h⟩ := gen_contains
    exact outerContains_isIn T proxyClass c k u h hst

/-- `isinstance(proxy, C)` answers as for the wrapped value, for every class C that SandboxResult itself does
not derive from. -/
theorem c16_isinstance (T : TypeTable) (v C : Nat) (hC : T.isSub T.proxyCls C = false) :
    outerIsinstance T proxyClass (.proxy v) C = isinstanceOp T v C :=
  outerIsinstance_spoof T proxyClass v C (by decide) hC

/-- Read from the source: `__pow__` hands its modulus on; the replacement `len()` delegates to the builtin. -/
theorem c16_generated_flags : proxyClass.powForwardsModulo = true ∧ proxyClass.lenFnDelegates = true := by
  decide

/-! ## The full statements and why they are refuted (open findings) -/

/-- The reflected family without its side condition. -/
def C16_reflected_Full : Prop :=
  ∀ (T : TypeTable) (op : BinOp) (l r : Nat), op.isCmp = false →
    Transparent (binaryOp T op l r) (outerBinary T proxyClass op (.raw l) (.proxy r))

theorem c16_reflected_full_of_ok (h : ∀ T op l r, RightOK T op l r = true) : C16_reflected_Full :=
  fun T op l r hop => c16_reflected T op l r hop (h T op l r)

/-- Witness: class B (11) derives from A (10) and overrides `__radd__`; `A() + B()` is answered by `B.__radd__`
(3), but with B's instance behind a proxy CPython cannot see the subclass relation and `A.__add__` answers (2). -/
def witnessTable : TypeTable where
  cls := fun v => if v = 0 then 10 else 11
  isSub := fun a b => a == b || (a == 11 && b == 10)
  lookup := fun c d => if c = 10 ∧ d = .add then some 100 else if c = 11 ∧ d = .radd then some 101
    else if c = 11 ∧ d = .add then some 100 else none
  isSq := fun _ => false
  foreign := fun _ => .blind
  call := fun s _ _ => if s = 100 then .ret (.raw 2) else .ret (.raw 3)
  call1 := fun _ _ => .raise 0
  same := fun a b => a == b
  trueId := 1
  falseId := 0
  typeErr := 0
  attrErr := 1
  hasKind := fun _ _ => false
  post := fun _ _ => .raise 0
  convFallback := fun _ _ => .raise 0
  iterContains := fun _ _ => .raise 0
  proxyCls := 99

theorem c16_reflected_counterexample : ¬ C16_reflected_Full := by
  intro h
  have hreal : (binaryOp witnessTable .add 0 1).res = .ret (.raw 3) := by decide
  have hprox : (outerBinary witnessTable proxyClass .add (.raw 0) (.proxy 1)).res = .ret (.raw 2) := by decide
  obtain ⟨v', hv', hf, _⟩ := (h witnessTable .add 0 1 rfl).1 _ hreal
  rw [hprox] at hv'
  cases hv'
  rcases hf with hf | hf <;> cases hf

/-! ## Non-vacuity -/

-- the side condition holds when the left method declines (every C number slot) …
example : RightOK { witnessTable with foreign := fun _ => .declines } .add 0 1 = true := by decide
-- … and then the proxied operation is the wrapped real one
example : (outerBinary { witnessTable with foreign := fun _ => .declines } proxyClass .add (.raw 0) (.proxy 1)).res
    = .ret (.proxy (.raw 3)) := by decide
example : (outerBinary witnessTable proxyClass .add (.proxy 0) (.raw 1)).res = .ret (.proxy (.raw 3)) := by decide
example : RightOK witnessTable .add 0 1 = false := by decide

end Pedal.Proxy
