import PedalModel.TimeoutMachine
/-
C14 — the invariant of the interleaving machine under the claim protocol (`fixed`) and its
preservation by every step of either thread.  The invariant says that the shared sandbox
state is a FUNCTION of the control state (who holds the claim, where each thread is): the
claim sequentialises the finalization of E1 although the threads interleave freely.
-/
namespace Pedal.Timeout


/-- the protocol as repaired -/
def fixed : Cfg := { claim := true, handlerPops := true, handlerBumps := true, termTolerant := true }
/-- the pinned tree -/
def pinned : Cfg := { claim := false, handlerPops := false, handlerBumps := false, termTolerant := false }
/-- the claim protocol without the tolerant `terminate()` -/
def intolerant : Cfg := { fixed with termTolerant := false }

def GPc.rank : GPc → Nat
  | .join => 0 | .check => 1 | .term => 2 | .hStop => 3 | .hPop => 4 | .hCap => 5 | .hBump => 6
  | .wait => 7 | .ret => 8 | .n0 => 9 | .nPush => 10 | .nPatch => 11 | .nW1 => 12 | .nW2 => 13
  | .nStop => 14 | .nPop => 15 | .nBump => 16 | .done => 17

def TPc.rank : TPc → Nat
  | .start => 0 | .run => 1 | .fClaim => 2 | .fStop => 3 | .fPop => 4 | .fCap => 5 | .fBump => 6
  | .dead => 7

/-- which (claim, grader pc, student pc) combinations occur -/
def legal : Option Who → GPc → TPc → Bool
  | none, g, t => (g == .join && decide (t.rank ≤ 2)) || (g == .check && (t == .run || t == .fClaim))
  | some .t, g, t =>
    decide (t.rank ≥ 3) && (g == .join || g == .check || g == .wait || (t == .dead && decide (g.rank ≥ 8)))
  | some .g, g, t => decide (g.rank ≥ 2) && g != .wait && (t == .run || t == .fClaim || t == .dead)

/-- the patch stack, the stdout stack and `sys.stdout` as a function of the control state -/
def expStacks (g : GPc) (t : TPc) : List Target × List Target × Target :=
  match g with
  | .join | .check | .wait =>
    (match t with
     | .start => ([], [], .real)
     | .run | .fClaim | .fStop => ([.real], [.b1], .b1)
     | .fPop => ([], [.b1], .real)
     | .fCap | .fBump | .dead => ([], [], .real))
  | .term | .hStop => ([.real], [.b1], .b1)
  | .hPop => ([], [.b1], .real)
  | .hCap | .hBump | .ret | .n0 | .nPush => ([], [], .real)
  | .nPatch => ([], [.b2], .real)
  | .nW1 | .nW2 | .nStop => ([.real], [.b2], .b2)
  | .nPop => ([], [.b2], .real)
  | .nBump | .done => ([], [], .real)

/-- the exception E1 ends with -/
def e1Exc (c : Option Who) (k : ExitKind) : Exc :=
  match c with
  | some .g => .timeout
  | _ => excOfExit k

def expFb (c : Option Who) (g : GPc) (t : TPc) (k : ExitKind) : List (Exc × Ex) :=
  match c with
  | some .g => if g.rank ≥ 6 then [(.timeout, .one)] else []
  | some .t => if t.rank ≥ 6 ∧ k ≠ .normal then [(excOfExit k, .one)] else []
  | none => []

def expExc (c : Option Who) (g : GPc) (t : TPc) (k : ExitKind) : Exc :=
  if g.rank ≥ 10 then .none
  else match c with
    | some .g => if g.rank ≥ 6 then .timeout else .none
    | some .t => if t.rank ≥ 6 then excOfExit k else .none
    | none => .none

def expNext (c : Option Who) (g : GPc) (t : TPc) : Nat :=
  (match c with
   | some .g => if g.rank ≥ 8 then 1 else 0
   | some .t => if t = .dead then 1 else 0
   | none => 0) + (if g = .done then 1 else 0)

/-- has E1's output been appended yet -/
def e1Appended (c : Option Who) (g : GPc) (t : TPc) : Bool :=
  match c with
  | some .g => decide (g.rank ≥ 5)
  | some .t => decide (t.rank ≥ 5)
  | none => false

structure Inv (s : St) : Prop where
  hl : legal s.claim s.gpc s.tpc = true
  hstk : (s.patches, s.stdouts, s.sysStdout) = expStacks s.gpc s.tpc
  hpend : s.pending = true → s.claim = some .g
  htimed : s.timedOut = (s.claim == some .g && s.gpc != .term)
  hexit : s.tExit = .sysExit → s.claim = some .g
  hcap : s.tpc = .fCap → s.tExit ≠ .normal
  hfb : s.feedback = expFb s.claim s.gpc s.tpc s.tExit
  hexc : s.exc = expExc s.claim s.gpc s.tpc s.tExit
  hnext : s.nextId = expNext s.claim s.gpc s.tpc
  hid1 : s.tpc ≠ .start → s.id1 = 0
  hid2 : s.gpc.rank ≥ 10 → s.id2 = 1
  hctx : s.ctxs = (if s.tpc = .start then 0 else 1) + (if s.gpc.rank ≥ 10 then 1 else 0)
  hraw : s.raw = s.out1 ++ s.out2
  hout1 : e1Appended s.claim s.gpc s.tpc = false → s.out1 = []
  hout2 : s.gpc.rank ≤ 15 → s.out2 = []
  hret : s.excAtReturn = (if s.gpc.rank ≥ 9 then some (e1Exc s.claim s.tExit) else none)
  hdepth : s.depthAtReturn = (if s.gpc.rank ≥ 9 then some (0, 0) else none)
  hbefore : s.excBeforeNext = (if s.gpc.rank ≥ 10 then some (e1Exc s.claim s.tExit) else none)
  hesc : s.e2Escaped = false
  hesc1 : s.e1Escaped = false

theorem inv_init : Inv init := by
  constructor <;> simp [init, legal, expStacks, expFb, expExc, expNext, e1Appended, GPc.rank, TPc.rank]

/-! ### the canonical state -/

/-- The state the invariant prescribes at a control point: the control state, the three token sinks, the two context
outputs and the two context ids are free, every other field is a function of them. -/
def canon (gpc : GPc) (tpc : TPc) (claim : Option Who) (pending : Bool) (tExit : ExitKind)
    (buf1 buf2 real out1 out2 : List Tok) (id1 id2 : Nat) : St :=
  let o1 := if e1Appended claim gpc tpc then out1 else []
  { gpc, tpc, claim, pending, tExit, timedOut := claim == some .g && gpc != .term,
    patches := (expStacks gpc tpc).1, stdouts := (expStacks gpc tpc).2.1, sysStdout := (expStacks gpc tpc).2.2,
    buf1, buf2, real,
    -- not `o1 ++ out2` throughout: after a pop the machine's `raw` must be this term up to computation
    raw := if gpc.rank ≤ 15 then o1 else o1 ++ out2, out1 := o1, out2 := if gpc.rank ≤ 15 then [] else out2,
    ctxs := (if tpc = .start then 0 else 1) + (if gpc.rank ≥ 10 then 1 else 0),
    id1 := if tpc = .start then id1 else 0, id2 := if gpc.rank ≥ 10 then 1 else id2,
    nextId := expNext claim gpc tpc, exc := expExc claim gpc tpc tExit, feedback := expFb claim gpc tpc tExit,
    excAtReturn := if gpc.rank ≥ 9 then some (e1Exc claim tExit) else none,
    depthAtReturn := if gpc.rank ≥ 9 then some (0, 0) else none,
    excBeforeNext := if gpc.rank ≥ 10 then some (e1Exc claim tExit) else none,
    e2Escaped := false, e1Escaped := false }

/-- the canonical state of `s`'s own control point and data -/
def St.canon (s : St) : St :=
  Timeout.canon s.gpc s.tpc s.claim s.pending s.tExit s.buf1 s.buf2 s.real s.out1 s.out2 s.id1 s.id2

/-- The invariant says: the state is canonical, and its control point is one of those that occur. -/
theorem inv_iff (s : St) : Inv s ↔ s = s.canon ∧ legal s.claim s.gpc s.tpc = true ∧
    (s.pending = true → s.claim = some .g) ∧ (s.tExit = .sysExit → s.claim = some .g) ∧
    (s.tpc = .fCap → s.tExit ≠ .normal) := by
  constructor
  · intro ⟨hl, hstk, hpend, htimed, hexit, hcap, hfb, hexc, hnext, hid1, hid2, hctx, hraw, hout1, hout2, hret, hdepth,
      hbefore, hesc, hesc1⟩
    refine ⟨?_, hl, hpend, hexit, hcap⟩
    rcases s with ⟨gpc, tpc, claim, pending, tExit, timedOut, patches, stdouts, sysStdout, buf1, buf2, real, raw, out1,
      out2, ctxs, id1, id2, nextId, exc, feedback, excAtReturn, depthAtReturn, excBeforeNext, e2Escaped, e1Escaped⟩
    -- `+instances`: the projections also sit inside the `Decidable` instances of the `if`s
    dsimp +instances only at hstk htimed hfb hexc hnext hid1 hid2 hctx hraw hout1 hout2 hret hdepth hbefore hesc hesc1
    obtain ⟨rfl, hstk⟩ := Prod.ext_iff.mp hstk
    obtain ⟨rfl, rfl⟩ := Prod.ext_iff.mp hstk
    subst htimed hfb hexc hnext hctx hraw hret hdepth hbefore hesc hesc1
    have e1 : (if e1Appended claim gpc tpc then out1 else []) = out1 :=
      ite_eq_left_iff.mpr fun hn => (hout1 (eq_false_of_ne_true hn)).symm
    have e2 : (if gpc.rank ≤ 15 then out1 else out1 ++ out2) = out1 ++ out2 :=
      ite_eq_right_iff.mpr fun h => by rw [hout2 h, List.append_nil]
    simp only [St.canon, canon, e1, e2, ite_eq_right_iff.mpr fun h => (hout2 h).symm,
      ite_eq_left_iff.mpr fun hn => (hid1 hn).symm, ite_eq_right_iff.mpr fun h => (hid2 h).symm]
  · intro ⟨he, hl, hpend, hexit, hcap⟩
    rw [he]
    refine ⟨hl, rfl, hpend, rfl, hexit, hcap, rfl, rfl, rfl, fun h => if_neg h, fun h => if_pos h, rfl, ?_,
      fun h => if_neg (ne_true_of_eq_false h), fun h => if_pos h, rfl, rfl, rfl, rfl, rfl⟩
    simp only [St.canon, canon]
    split
    · exact (List.append_nil _).symm
    · rfl

/-- To prove something of every state the invariant admits, prove it of the canonical states.  At a concrete control
point every field of `canon …` computes, so a step from there can be run by `rfl`. -/
@[elab_as_elim] theorem Inv.elim {P : St → Prop} {s : St} (h : Inv s)
    (k : ∀ gpc tpc claim pending tExit buf1 buf2 real out1 out2 id1 id2,
      legal claim gpc tpc = true → (pending = true → claim = some .g) → (tExit = .sysExit → claim = some .g) →
      (tpc = .fCap → tExit ≠ .normal) → P (canon gpc tpc claim pending tExit buf1 buf2 real out1 out2 id1 id2)) :
    P s := by
  obtain ⟨he, hl, hpend, hexit, hcap⟩ := (inv_iff s).mp h
  exact he ▸ k _ _ _ _ _ _ _ _ _ _ _ _ hl hpend hexit hcap

/-! ### preservation

Every step is checked at each control point that occurs, from the canonical state: the successor is canonical again
by computation, and the side conditions carry over. -/

/-- A side condition of the invariant after a step from a concrete control point: it is the one before, or its
conclusion holds by computation, or its premise fails by computation (`decide` refuses such goals: the free data
still occurs in them). -/
local macro "side_condition" : tactic =>
  `(tactic| first
    | assumption
    | exact fun _ => rfl
    | exact fun h => absurd h (of_decide_eq_false rfl))

theorem inv_stepG (s : St) (h : Inv s) : Inv (stepG fixed s) := by
  refine h.elim fun gpc tpc claim pending tExit buf1 buf2 real out1 out2 id1 id2 hl hpend hexit hcap => ?_
  rcases claim with _ | _ | _ <;> cases gpc <;> cases tpc <;> first | cases hl | skip
  all_goals refine (inv_iff _).mpr ⟨rfl, rfl, ?_, ?_, ?_⟩ <;> side_condition

/-- student code leaves for its finalization -/
theorem Inv.exit {s : St} (h : Inv s) (hr : s.tpc = .run) (b : Bool) (hb : b = true → s.claim = some .g)
    (k : ExitKind) (hk : k = .sysExit → s.claim = some .g) :
    Inv { s with pending := b, tpc := .fClaim, tExit := k } := by
  revert hr hb hk
  refine h.elim fun gpc tpc claim pending tExit buf1 buf2 real out1 out2 id1 id2 hl hpend hexit hcap hr hb hk => ?_
  cases hr
  rcases claim with _ | _ | _ <;> cases gpc <;> first | cases hl | skip
  all_goals refine (inv_iff _).mpr ⟨rfl, rfl, ?_, ?_, ?_⟩ <;> side_condition

/-- the invariant does not speak of the token sinks -/
theorem Inv.write {s : St} (h : Inv s) (k : Tok) : Inv (s.write k) := by
  obtain ⟨_, _, _, _, _, _, _, _, _, _, _, _, _, _, _, _, _, _, _, _⟩ := h
  unfold St.write
  split <;> constructor <;> assumption

theorem Inv.clearPending {s : St} (h : Inv s) : Inv { s with pending := false } := by
  obtain ⟨_, _, _, _, _, _, _, _, _, _, _, _, _, _, _, _, _, _, _, _⟩ := h
  constructor <;> first | assumption | exact nofun

theorem inv_stepT (p : Prog) (s : St) (c : TChoice) (h : Inv s) : Inv (stepT fixed p s c) := by
  by_cases hrun : s.tpc = .run
  · -- student code: nothing the invariant sees, or it leaves for its finalization
    cases s
    cases hrun
    dsimp only [stepT]
    split
    · exact h
    split
    · split
      · exact h.clearPending
      · exact h.exit rfl false nofun _ fun _ => h.hpend ‹_›
    · cases c
      · dsimp only
        split
        · exact h.write _
        · exact h
      · exact h.exit rfl _ h.hpend _ nofun
      · exact h.exit rfl _ h.hpend _ nofun
  by_cases hdead : s.tpc = .dead
  · cases s
    cases hdead
    exact h
  revert hrun hdead
  refine h.elim fun gpc tpc claim pending tExit buf1 buf2 real out1 out2 id1 id2 hl hpend hexit hcap hrun hdead => ?_
  cases tpc
  case run => exact absurd rfl hrun
  case dead => exact absurd rfl hdead
  case start | fClaim =>
    -- T starts; at its claim check it wins (no termination can be pending on it then) or finds the claim lost
    rcases claim with _ | _ | _ <;> cases gpc <;> first | cases hl | skip
    all_goals
      refine (inv_iff _).mpr ⟨rfl, rfl, ?_, ?_, ?_⟩ <;>
        first | side_condition | exact fun h => nomatch hpend h | exact fun h => nomatch hexit h
  -- T's finalization, which looks at how the student code ended
  all_goals
    rcases claim with _ | _ | _ <;> cases gpc <;> first | cases hl | skip
    all_goals
      cases tExit <;> first
        | exact absurd rfl (hcap rfl)
        | refine (inv_iff _).mpr ⟨rfl, rfl, ?_, ?_, ?_⟩ <;> first | side_condition | exact fun _ => of_decide_eq_true rfl

/-! ### what E2 wrote stays E2's: the data part (needs `swallows → ¬ prints`) -/

def expBuf2 (g : GPc) : List Tok :=
  if g.rank ≤ 12 then [] else if g.rank = 13 then [.n] else [.n, .x]

structure InvData (p : Prog) (s : St) : Prop where
  hbuf2 : s.buf2 = expBuf2 s.gpc
  hout2v : s.out2 = if s.gpc.rank ≥ 16 then [.n, .x] else []
  hreal : ∀ k ∈ s.real, k = Tok.e1
  /-- once the grader has told T to terminate, a T that is still in student code either has the
  SystemExit pending, or swallowed it, or is blocked -/
  haux : s.claim = some .g → s.gpc ≠ .term → s.tpc = .run →
    (s.pending = true ∨ p.swallows = true ∨ p.blocked = true)

theorem invd_init (p : Prog) : InvData p init := by
  constructor <;> simp [init, expBuf2, GPc.rank]

/-- the grader's steps: E2's two writes land in E2's own buffer because `sys.stdout` is it -/
theorem invd_stepG (p : Prog) (s : St) (h : Inv s) (d : InvData p s) : InvData p (stepG fixed s) := by
  revert d
  refine h.elim fun gpc tpc claim pending tExit buf1 buf2 real out1 out2 id1 id2 hl hpend hexit hcap d => ?_
  obtain ⟨hbuf2, hout2v, hreal, haux⟩ := d
  obtain rfl : buf2 = expBuf2 gpc := hbuf2
  rcases claim with _ | _ | _ <;> cases gpc <;> cases tpc <;> first | cases hl | skip
  all_goals
    constructor <;>
      first
      | rfl
      | side_condition
      | exact fun _ h => absurd h (of_decide_eq_false rfl)
      | exact fun _ _ h => absurd h (of_decide_eq_false rfl)
      | exact fun _ _ _ => haux rfl (of_decide_eq_true rfl) rfl
      | exact fun _ _ _ => .inl rfl

/-- Student code prints only while no termination is pending on it that it will not swallow; by then `sys.stdout` is
E1's buffer, never E2's. -/
theorem InvData.write {p : Prog} {s : St} (d : InvData p s) (h : Inv s) (hr : s.tpc = .run)
    (hq : ¬ (s.pending = true ∨ p.swallows = true ∨ p.blocked = true)) : InvData p (s.write .e1) := by
  revert d hr hq
  refine h.elim fun gpc tpc claim pending tExit buf1 buf2 real out1 out2 id1 id2 hl hpend hexit hcap d hr hq => ?_
  obtain ⟨hbuf2, hout2v, hreal, haux⟩ := d
  cases hr
  rcases claim with _ | _ | _ <;> cases gpc <;> first | cases hl | skip
  all_goals
    first
    | exact absurd (haux rfl (of_decide_eq_true rfl) rfl) hq
    | constructor <;> assumption

theorem invd_stepT (p : Prog) (hp : p.swallows = true → p.prints = false) (s : St) (c : TChoice)
    (h : Inv s) (d : InvData p s) : InvData p (stepT fixed p s c) := by
  by_cases hrun : s.tpc = .run
  · cases s
    cases hrun
    dsimp only [stepT]
    split
    · exact d
    split
    · split
      · exact ⟨d.hbuf2, d.hout2v, d.hreal, fun _ _ _ => .inr (.inl ‹_›)⟩
      · exact ⟨d.hbuf2, d.hout2v, d.hreal, nofun⟩
    · cases c
      · dsimp only
        split
        · refine d.write h rfl ?_
          rintro (hq | hq | hq)
          · exact absurd hq ‹_›
          · exact Bool.noConfusion ((hp hq).symm.trans ‹_›)
          · exact absurd hq ‹_›
        · exact d
      · exact ⟨d.hbuf2, d.hout2v, d.hreal, nofun⟩
      · exact ⟨d.hbuf2, d.hout2v, d.hreal, nofun⟩
  by_cases hdead : s.tpc = .dead
  · cases s
    cases hdead
    exact d
  -- outside student code T writes nothing
  revert d hrun hdead
  refine h.elim fun gpc tpc claim pending tExit buf1 buf2 real out1 out2 id1 id2 hl hpend hexit hcap d hrun hdead => ?_
  obtain ⟨hbuf2, hout2v, hreal, haux⟩ := d
  cases tpc
  case run => exact absurd rfl hrun
  case dead => exact absurd rfl hdead
  all_goals
    rcases claim with _ | _ | _ <;> cases gpc <;> first | cases hl | skip
    all_goals
      constructor <;>
        first
        | rfl
        | side_condition
        | exact fun _ _ h => absurd h (of_decide_eq_false rfl)

end Pedal.Timeout
