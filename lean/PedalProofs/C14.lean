import PedalModel.Timeout
import PedalProofs.TimeoutLemmas
import PedalProofs.TimeoutLemmasIR
/-
C14 — a time-limit violation yields exactly one timeout report and a usable sandbox.

All theorems are about `Pedal.Timeout.run p sched` = the interleaving machine instantiated
with the protocol facts translated from the tree under test (`cfg`), i.e. the function the
driver executes, for EVERY student program `p : Prog` and EVERY schedule `sched : List Act`
(any interleaving of the grader thread and the student thread, of any length), by induction
over the schedule with the invariants `Inv` / `InvData` (TimeoutLemmas).

`cfg_fixed` is where the tree under test enters.  `cfg` is COMPUTED (PedalModel/Timeout.lean, TimeoutIR.lean) from the
decision trees of `timeout()`, `Sandbox._stop_mocking` and the TimeoutError handler that the translator regenerates on
every run (read from the AST with helpers inlined and locals followed, and measured on the running code): the trees
are evaluated on every answer to the questions the code asks, so `cfg_fixed` holds for every way of writing the same
protocol, and fails when a fact is absent, not established by either source, contradictory, or present on one side
only (PedalProofs/TimeoutLemmasIR.lean pins what the fact functions accept and refuse).
-/
namespace Pedal.Timeout

/-- the tree under test implements the whole protocol -/
theorem cfg_fixed : cfg = fixed := rfl

theorem inv_step (p : Prog) (s : St) (a : Act) (h : Inv s) : Inv (step fixed p s a) := by
  cases a with
  | g => exact inv_stepG s h
  | t c => exact inv_stepT p s c h

theorem invd_step (p : Prog) (hp : p.swallows = true → p.prints = false) (s : St) (a : Act)
    (h : Inv s) (d : InvData p s) : InvData p (step fixed p s a) := by
  cases a with
  | g => exact invd_stepG p s h d
  | t c => exact invd_stepT p hp s c h d

/-- induction over the schedule -/
theorem inv_runSched (p : Prog) (sched : List Act) (s : St) (h : Inv s) : Inv (runSched fixed p s sched) := by
  induction sched generalizing s with
  | nil => exact h
  | cons a rest ih => exact ih _ (inv_step p s a h)

theorem invd_runSched (p : Prog) (hp : p.swallows = true → p.prints = false) (sched : List Act) (s : St)
    (h : Inv s) (d : InvData p s) : InvData p (runSched fixed p s sched) := by
  induction sched generalizing s with
  | nil => exact d
  | cons a rest ih => exact ih _ (inv_step p s a h) (invd_step p hp s a h d)

theorem inv_run (p : Prog) (sched : List Act) : Inv (run p sched) := by
  unfold run; rw [cfg_fixed]; exact inv_runSched p sched init inv_init

theorem invd_run (p : Prog) (hp : p.swallows = true → p.prints = false) (sched : List Act) :
    InvData p (run p sched) := by
  unfold run; rw [cfg_fixed]; exact invd_runSched p hp sched init inv_init (invd_init p)

/-! ### the property -/

/-- Exactly one runtime feedback for the timed-out execution, and it is the timeout — under every
schedule, whenever and whether the abandoned thread reaches its handlers.  (If the student code
ended just in time instead, the execution has its ordinary feedback: none, or its own exception;
never two, never a SystemExit.) -/
theorem c14_one_timeout_feedback (p : Prog) (sched : List Act) (hdone : (run p sched).gpc = .done) :
    ((run p sched).timedOut = true → (run p sched).feedback = [(.timeout, .one)]) ∧
    ((run p sched).timedOut = false →
      (run p sched).feedback = [] ∨ (run p sched).feedback = [(.student, .one)]) := by
  revert hdone
  refine (inv_run p sched).elim fun gpc tpc claim pending tExit _ _ _ _ _ _ _ hl _ hexit _ (hdone : gpc = .done) => ?_
  subst hdone
  rcases claim with _ | _ | _ <;> cases tpc <;> first | cases hl | skip
  all_goals cases tExit <;> simp [canon, expFb, GPc.rank, TPc.rank, excOfExit] at hexit ⊢

/-- From the moment the TimeoutError handler has recorded it until the next execution starts,
`sandbox.exception` is the timeout error, whatever the abandoned thread does meanwhile; in
particular it is what `run(threaded=True)` returns with and what the next execution finds. -/
theorem c14_exception_is_timeout (p : Prog) (sched : List Act) (ht : (run p sched).timedOut = true) :
    (6 ≤ (run p sched).gpc.rank → (run p sched).gpc.rank ≤ 9 → (run p sched).exc = .timeout) ∧
    (9 ≤ (run p sched).gpc.rank → (run p sched).excAtReturn = some .timeout) ∧
    (10 ≤ (run p sched).gpc.rank → (run p sched).excBeforeNext = some .timeout) := by
  revert ht
  refine (inv_run p sched).elim fun gpc tpc claim pending tExit _ _ _ _ _ _ _ hl _ _ _ ht => ?_
  -- `timedOut` says that the grader holds the claim
  rcases claim with _ | _ | _ <;> first | cases ht | skip
  cases gpc <;> simp [canon, expExc, e1Exc, GPc.rank]

/-- The patch stack and the stdout stack are empty and `sys.stdout` is the real one when the
timed-out call returns, while the next execution has not pushed its own yet, and again after
it — under every schedule, wherever the abandoned thread is. -/
theorem c14_stacks_clean_after (p : Prog) (sched : List Act) :
    (9 ≤ (run p sched).gpc.rank → (run p sched).depthAtReturn = some (0, 0)) ∧
    (((run p sched).gpc = .ret ∨ (run p sched).gpc = .n0 ∨ (run p sched).gpc = .nPush ∨
      (run p sched).gpc = .nBump ∨ (run p sched).gpc = .done) →
      (run p sched).patches = [] ∧ (run p sched).stdouts = [] ∧ (run p sched).sysStdout = .real) := by
  refine (inv_run p sched).elim fun gpc tpc claim pending tExit _ _ _ _ _ _ _ _ _ _ _ => ⟨fun h9 => if_pos h9, ?_⟩
  rintro (h | h | h | h | h) <;> cases (h : gpc = _) <;> exact ⟨rfl, rfl, rfl⟩

/-- The next execution is not altered by the abandoned thread: it gets a fresh context id, its
record and the raw output hold exactly what it wrote, in order, after E1's share; nothing it
wrote went anywhere else; it ends without exception and nothing escapes.  The output part needs
the student thread not to be one that survives termination AND prints (`swallows → ¬ prints`):
`sys.stdout` is process-global, see `c14_surviving_printer_pollutes`. -/
theorem c14_next_run_unaffected (p : Prog) (sched : List Act) (hdone : (run p sched).gpc = .done) :
    (run p sched).exc = .none ∧ (run p sched).e2Escaped = false ∧
    (run p sched).id2 = (run p sched).id1 + 1 ∧ (run p sched).nextId = 2 ∧
    (run p sched).raw = (run p sched).out1 ++ (run p sched).out2 ∧
    ((p.swallows = true → p.prints = false) →
      (run p sched).out2 = [.n, .x] ∧ (∀ k ∈ (run p sched).real, k = Tok.e1)) := by
  have d := fun hp => invd_run p hp sched
  revert hdone d
  refine (inv_run p sched).elim fun gpc tpc claim pending tExit _ _ _ _ _ _ _ hl _ _ _ (hdone : gpc = .done) d => ?_
  subst hdone
  rcases claim with _ | _ | _ <;> cases tpc <;> first | cases hl | skip
  all_goals exact ⟨rfl, rfl, rfl, rfl, rfl, fun hp => ⟨(d hp).hout2v, (d hp).hreal⟩⟩

/-- Nothing escapes from `run(threaded=True)` or from the next execution — under every schedule,
including the one where the student thread ends by itself between the grader's decision to give
up on it and the `terminate()` call (`c14_intolerant_terminate_escapes` is what happens there
when `terminate()` insists on a live thread). -/
theorem c14_nothing_escapes (p : Prog) (sched : List Act) :
    (run p sched).e1Escaped = false ∧ (run p sched).e2Escaped = false :=
  ⟨(inv_run p sched).hesc1, (inv_run p sched).hesc⟩

/-- "Returns within a bounded delay", as far as a schedule-level model can say it: after the
timer fired the grader thread blocks on the student thread in exactly one situation — the
student thread has already left the student's code, holds the claim and is running pedal's own
(loop-free) finalization.  It never waits for student code.  The wall-clock bound itself is a
runtime fact and is only sampled by the harness. -/
theorem c14_grader_waits_only_for_finalization (p : Prog) (sched : List Act)
    (hw : (run p sched).gpc = .wait) :
    (run p sched).claim = some .t ∧ 3 ≤ (run p sched).tpc.rank := by
  revert hw
  refine (inv_run p sched).elim fun gpc tpc claim _ _ _ _ _ _ _ _ _ hl _ _ _ (hw : gpc = .wait) => ?_
  subst hw
  rcases claim with _ | _ | _ <;> first | cases hl | skip
  exact ⟨rfl, show 3 ≤ tpc.rank by simpa [legal] using hl⟩

/-- every other grader step makes progress by itself (T's prologue is assumed done at the timer) -/
theorem c14_grader_progress (c : Cfg) (s : St) (h1 : s.gpc ≠ .wait) (h2 : s.gpc ≠ .done)
    (h3 : s.gpc = .join → s.tpc ≠ .start) : (stepG c s).gpc ≠ s.gpc := by
  unfold stepG
  split <;> (try split) <;> (try split) <;> simp_all

/-- and a finalizing student thread reaches its end in at most four more of its own steps -/
theorem c14_finalization_is_short (p : Prog) (s : St) (c : TChoice) (h : 3 ≤ s.tpc.rank) (hd : s.tpc ≠ .dead) :
    s.tpc.rank < (stepT fixed p s c).tpc.rank := by
  unfold stepT
  split <;> (try split) <;> (try split) <;> simp_all [TPc.rank]

/-! ### what goes wrong without the protocol (the pinned tree), and what stays wrong with it -/

def busy : Prog := { prints := false, swallows := false, blocked := false }
def printer : Prog := { prints := true, swallows := false, blocked := false }
def survivingPrinter : Prog := { prints := true, swallows := true, blocked := false }

private def gs (n : Nat) : List Act := List.replicate n .g
private def ws (n : Nat) : List Act := List.replicate n (.t .work)

/-- Pinned tree, the interrupted thread runs its handler after `run()` returned: the stdout
buffer is still on the stack at return, a second runtime feedback appears and the timeout is
replaced by SystemExit before the next execution starts. -/
theorem c14_pinned_counterexample :
    ∃ sched, let s := runSched pinned busy init sched
      s.gpc = .done ∧ s.timedOut = true ∧ s.depthAtReturn = some (0, 1) ∧
      s.feedback = [(.timeout, .one), (.systemExit, .one)] ∧ s.excBeforeNext = some .systemExit :=
  ⟨ws 2 ++ gs 6 ++ ws 7 ++ gs 9, by decide⟩

/-- Pinned tree, the interrupted (printing) thread runs its handler while the NEXT execution is
running: it pops the next execution's patches and buffer, so the next execution's record holds
the abandoned thread's output and part of its own output is filed under the old execution. -/
theorem c14_pinned_late_pop :
    ∃ sched, let s := runSched pinned printer init sched
      s.gpc = .done ∧ s.out2 = [.e1] ∧ s.out1 = [.n] ∧ s.real = [.x] ∧
      s.feedback = [(.timeout, .one), (.systemExit, .two)] :=
  ⟨ws 2 ++ gs 10 ++ ws 7 ++ gs 8, by decide⟩

/-- The claim protocol with the original `terminate()` (`assert self.is_alive()`): the student
code ends right after the grader won the claim, its thread is gone when `terminate()` runs, the
AssertionError leaves `run()` with the patches still on and nothing recorded. -/
theorem c14_intolerant_terminate_escapes :
    ∃ sched, let s := runSched intolerant busy init sched
      s.e1Escaped = true ∧ s.feedback = [] ∧ s.patches = [.real] ∧ s.stdouts = [.b1] ∧ s.sysStdout = .b1 :=
  ⟨ws 2 ++ gs 2 ++ [.t .finish, .t .work] ++ gs 1, by decide⟩

/-- With the protocol in place one thing remains: a thread that swallows the termination AND
keeps printing writes into whatever `sys.stdout` currently is — the next execution's buffer. -/
theorem c14_surviving_printer_pollutes :
    ∃ sched, let s := runSched fixed survivingPrinter init sched
      s.gpc = .done ∧ s.timedOut = true ∧ s.out2 = [.n, .e1, .x] :=
  ⟨ws 2 ++ gs 12 ++ ws 2 ++ gs 8, by decide⟩

/-! ### non-vacuity: the hypotheses of the theorems are met by real schedules -/

example : (run busy (ws 2 ++ gs 8 ++ ws 7 ++ gs 9)).gpc = .done ∧
    (run busy (ws 2 ++ gs 8 ++ ws 7 ++ gs 9)).timedOut = true := by decide
-- the student thread ends between the grader's claim and `terminate()`: still exactly the timeout
example : (run busy (ws 2 ++ gs 2 ++ [.t .finish, .t .work] ++ gs 20)).gpc = .done ∧
    (run busy (ws 2 ++ gs 2 ++ [.t .finish, .t .work] ++ gs 20)).feedback = [(.timeout, .one)] ∧
    (run busy (ws 2 ++ gs 2 ++ [.t .finish, .t .work] ++ gs 20)).tpc = .dead := by decide
-- the student code ends at the bell and claims first: no timeout, the grader waits for the finalization
example : (run busy ([.t .work, .g, .t .finish, .t .work, .g, .g])).gpc = .wait := by decide
example : (run busy ([.t .work, .g, .t .raise] ++ ws 5 ++ gs 12)).feedback = [(.student, .one)] := by decide
#guard (run printer (ws 3 ++ gs 12 ++ ws 4 ++ gs 8)).out2 == [.n, .x]
#guard (run printer (ws 3 ++ gs 12 ++ ws 4 ++ gs 8)).raw == [.e1, .e1, .n, .x]

end Pedal.Timeout
