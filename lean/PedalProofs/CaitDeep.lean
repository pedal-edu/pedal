import PedalProofs.CaitLemmas
/-
C10 core: every map returned by the model's `deep` (deep_find_match) is a good embedding of the pattern
node at the student node (`Good`), by structural induction on the pattern.
-/
namespace Pedal.Cait

/-! ### paths -/

theorem prefix_snoc_inj {pp k : Path} {i i' : Nat} (h1 : (pp ++ [i]) <+: k) (h2 : (pp ++ [i']) <+: k) : i = i' := by
  obtain ⟨t1, e1⟩ := h1
  obtain ⟨t2, e2⟩ := h2
  rw [← e2, List.append_assoc, List.append_assoc] at e1
  have := List.append_cancel_left e1
  simp only [List.singleton_append, List.cons.injEq] at this
  exact this.1

theorem not_snoc_prefix_self (pp : Path) (i : Nat) : ¬ (pp ++ [i]) <+: pp := by
  intro h
  have := h.length_le
  simp at this
  omega

theorem prefix_of_snoc_prefix {pp k : Path} {i : Nat} (h : (pp ++ [i]) <+: k) : pp <+: k :=
  (List.prefix_append pp [i]).trans h

/-! ### small facts about the checker -/

theorem embAt_root {m : AstMap} {pp sp : Path} {p s : T} (h : embAt m pp p sp s = true) :
    dictGet pp m.mappings = some sp := by
  cases p with
  | mk k f fl ks =>
    rw [embAt] at h
    simp only [Bool.and_eq_true, decide_eq_true_eq] at h
    exact h.1

theorem embKids_used_irrel (m : AstMap) (pp sp : Path) (s : T) (kids : List T) :
    ∀ i mj u1 u2, embKids m pp i kids sp s true mj u1 = embKids m pp i kids sp s true mj u2 := by
  induction kids with
  | nil => intro i mj u1 u2; rw [embKids, embKids]
  | cons pc rest ih =>
    intro i mj u1 u2
    rw [embKids, embKids]
    cases dictGet (pp ++ [i]) m.mappings with
    | none => rfl
    | some q =>
      simp only
      cases q.getLast? with
      | none => rfl
      | some j =>
        simp only [if_true]
        rw [ih (i + 1) (j + 1) (j :: u1) (j :: u2)]

/-! ### the helpers of the child loop -/

theorem candsFrom_mem {f : Nat → T → List AstMap} {ys : Nat} :
    ∀ (l : List T) (j0 : Nat) (c : Nat × List AstMap), c ∈ candsFrom f ys j0 l →
      ∃ sj, l[c.1 - j0]? = some sj ∧ j0 ≤ c.1 ∧ c.2 = f c.1 sj := by
  intro l
  induction l with
  | nil => intro j0 c hc; simp [candsFrom] at hc
  | cons s ss ih =>
    intro j0 c hc
    rw [candsFrom] at hc
    rw [List.mem_append] at hc
    rcases hc with hc | hc
    · split at hc
      · cases hc
      · simp only at hc
        split at hc
        · cases hc
        · simp only [List.mem_singleton] at hc
          subst hc
          exact ⟨s, by simp, Nat.le_refl _, rfl⟩
    · obtain ⟨sj, h1, h2, h3⟩ := ih (j0 + 1) c hc
      refine ⟨sj, ?_, by omega, h3⟩
      have : c.1 - j0 = (c.1 - (j0 + 1)) + 1 := by omega
      rw [this, List.getElem?_cons_succ]
      exact h1

theorem mem_extendOne {b : AstMap} {mn : Nat} {cands : List (Nat × List AstMap)} {x : AstMap × Nat} :
    x ∈ extendOne b mn cands ↔
      ∃ c ∈ cands, mn ≤ c.1 ∧ ∃ r ∈ c.2, (b.merged r).hasConflicts = false ∧ x = (b.merged r, c.1 + 1) := by
  simp only [extendOne, List.mem_flatMap]
  refine exists_congr fun c => and_congr_right fun _ => ?_
  split
  · rename_i hge
    simp only [List.mem_filterMap, hge, true_and]
    refine exists_congr fun r => and_congr_right fun _ => ?_
    cases (b.merged r).hasConflicts <;> simp [eq_comm]
  · rename_i hge
    simp [hge]

theorem mapMerge_mem {st : List (AstMap × Nat)} {cands : List (Nat × List AstMap)}
    {st' : List (AstMap × Nat)} {y' : Nat} (h : mapMerge st cands = some (st', y')) :
    ∀ x' ∈ st', ∃ x ∈ st, ∃ c ∈ cands, x.2 ≤ c.1 ∧ ∃ r ∈ c.2,
      x'.1 = x.1.merged r ∧ x'.1.hasConflicts = false ∧ x'.2 = c.1 + 1 := by
  intro x' hx'
  cases cands with
  | nil => simp [mapMerge] at h
  | cons c0 cs =>
    simp only [mapMerge] at h
    split at h
    · cases h
    · simp only [Option.some.injEq, Prod.mk.injEq] at h
      obtain ⟨rfl, _⟩ := h
      simp only [List.mem_flatMap, mem_extendOne] at hx'
      obtain ⟨x, hx, c, hc, hge, r, hr, hcf, rfl⟩ := hx'
      exact ⟨x, hx, c, hc, hge, r, hr, rfl, hcf, rfl⟩

theorem binflexHelper_mem {base : AstMap} {L R : List AstMap} {m : AstMap} (h : m ∈ binflexHelper base L R) :
    ∃ lm ∈ L, ∃ rm ∈ R, m = (base.merged lm).merged rm ∧ m.hasConflicts = false := by
  simp only [binflexHelper, List.mem_flatMap, List.mem_filterMap] at h
  obtain ⟨lm, hl, rm, hr, hm⟩ := h
  split at hm
  · cases hm
  · rename_i hc
    cases hm
    exact ⟨lm, hl, rm, hr, rfl, by simpa using hc⟩

/-! ### what `deepPre` decides -/

theorem isVar_false_of_isExp {cs : List Char} (h : isExpChars cs = true) : isVarChars cs = false := by
  simp only [isExpChars, Bool.and_eq_true, decide_eq_true_eq] at h
  cases cs with
  | nil => simp at h
  | cons a t =>
    cases t with
    | nil => simp at h
    | cons b rest =>
      have h2 := h.1.2
      simp only [List.take_succ_cons, List.take_zero, List.cons.injEq, and_true] at h2
      obtain ⟨rfl, rfl⟩ := h2
      simp [isVarChars]

/-- `nameClass` tests the `_v_` form first, but a name of the `__e__` or the `___` form never has it -/
theorem nameClass_eq_exp {n : String} : nameClass n = .exp ↔ isExpChars n.toList = true := by
  constructor
  · intro h
    simp only [nameClass] at h
    split at h
    · cases h
    · split at h
      · assumption
      · split at h <;> cases h
  · intro h
    simp [nameClass, isVar_false_of_isExp h, h]

theorem nameClass_eq_wild {n : String} : nameClass n = .wild ↔ isWildChars n.toList = true := by
  constructor
  · intro h
    simp only [nameClass] at h
    split at h
    · cases h
    · split at h
      · cases h
      · split at h
        · assumption
        · cases h
  · intro h
    simp only [isWildChars, decide_eq_true_eq] at h
    simp [nameClass, h, isVarChars, isExpChars, isWildChars]

/-- `deepPre` in terms of the specification's `role`: only a `Name` or an expression statement can be a
placeholder, and it is treated as one only when the metas match. -/
theorem deepPre_eq (cm : Bool) (pf : String) (pp : Path) (p : T) (sp : Path) (s : T) :
    deepPre cm pf pp p sp s =
      if p.kind = "Name" ∨ p.kind = "Expr" then
        if metasMatch cm pf s = true then
          match role p with
          | .wildcard => .done [pairMap pp sp]
          | .expPh n => .done [expMap pp sp n]
          | _ => .generic (if p.kind = "Name" then ["ctx"] else [])
        else if p.kind = "Name" then .generic ["ctx"] else .done []
      else if flexOp p = true then .binflex else .generic [] := by
  by_cases hN : p.kind = "Name"
  · simp only [deepPre, role, hN, expMap, true_or, if_true, show ("Name" : String) ≠ "Pass" from by decide, if_false]
    cases metasMatch cm pf s <;> cases nameClass (p.strAttr "id") <;> rfl
  · by_cases hE : p.kind = "Expr"
    · have e1 : ("Expr" : String) ≠ "Name" := by decide
      have e2 : ("Expr" : String) ≠ "BinOp" := by decide
      have e3 : ("Expr" : String) ≠ "Pass" := by decide
      have e4 : ("Expr" : String) ≠ "arg" := by decide
      simp only [deepPre, role, hE, e1, e2, e3, e4, if_false, if_true, or_true, expMap]
      cases metasMatch cm pf s
      · rfl
      · simp only [Bool.not_true, Bool.false_eq_true, if_false, if_true]
        cases p.kids.head? with
        | none => rfl
        | some v =>
          simp only
          by_cases hvk : v.kind = "Name"
          · -- `deepPre` asks `isExpChars` / `isWildChars` where `role` asks `nameClass`
            simp only [hvk, if_true, ← nameClass_eq_exp, ← nameClass_eq_wild]
            cases nameClass (v.strAttr "id") <;> rfl
          · simp only [hvk, if_false]
    · simp only [deepPre, hN, hE, if_false, or_self, flexOp]
      by_cases hb : p.kind = "BinOp"
      · simp only [hb, if_true, decide_true, Bool.true_and, Bool.or_eq_true, decide_eq_true_eq]
      · simp [hb]

variable {cm : Bool} {pf : String} {pp sp : Path} {p s : T}

theorem deepPre_done {r : List AstMap} (h : deepPre cm pf pp p sp s = .done r) :
    (metasMatch cm pf s = false ∧ r = []) ∨
      (metasMatch cm pf s = true ∧
        ((r = [pairMap pp sp] ∧ role p = .wildcard) ∨ ∃ n, r = [expMap pp sp n] ∧ role p = .expPh n)) := by
  rw [deepPre_eq] at h
  split at h
  · split at h
    · rename_i hm
      split at h
      · cases h; exact Or.inr ⟨hm, Or.inl ⟨rfl, by assumption⟩⟩
      · cases h; exact Or.inr ⟨hm, Or.inr ⟨_, rfl, by assumption⟩⟩
      · cases h
    · rename_i hm
      split at h <;> cases h
      exact Or.inl ⟨by simpa using hm, rfl⟩
  · split at h <;> cases h

theorem deepPre_generic {ig : List String} (h : deepPre cm pf pp p sp s = .generic ig) :
    ig = (if p.kind = "Name" then ["ctx"] else []) ∧ flexOp p = false ∧
      (metasMatch cm pf s = true → (∀ n, role p ≠ .expPh n) ∧
        ((p.kind = "Name" ∨ p.kind = "Expr") → role p ≠ .wildcard)) := by
  rw [deepPre_eq] at h
  split at h
  · rename_i hk
    have hfl : flexOp p = false := by rcases hk with hk | hk <;> simp [flexOp, hk]
    split at h
    · split at h
      · cases h
      · cases h
      · rename_i h1 h2
        cases h
        exact ⟨rfl, hfl, fun _ => ⟨fun n hn => h2 n hn, fun _ hw => h1 hw⟩⟩
    · rename_i hm
      split at h
      · rename_i hN
        cases h
        exact ⟨by rw [if_pos hN], hfl, fun h' => absurd h' hm⟩
      · cases h
  · rename_i hk
    split at h
    · cases h
    · rename_i hfl
      cases h
      refine ⟨by rw [if_neg (fun h => hk (Or.inl h))], by simpa using hfl, fun _ => ⟨?_, fun h => absurd h hk⟩⟩
      exact role_not_exp_of_kind (fun h => hk (Or.inl h)) (fun h => hk (Or.inr h))

theorem deepPre_binflex (h : deepPre cm pf pp p sp s = .binflex) : p.kind = "BinOp" ∧ flexOp p = true := by
  rw [deepPre_eq] at h
  split at h
  · split at h
    · split at h <;> cases h
    · split at h <;> cases h
  · split at h
    · rename_i hfl
      exact ⟨by simp only [flexOp, Bool.and_eq_true, decide_eq_true_eq] at hfl; exact hfl.1, hfl⟩
    · cases h

/-! ### `deep`, by what `deepPre` decided -/

theorem deep_done {r : List AstMap} (h : deepPre cm pf pp p sp s = .done r) : deep cm pf pp p sp s = r := by
  cases p; rw [deep.eq_def]; simp only [h]

theorem deep_generic {ig : List String} (h : deepPre cm pf pp p sp s = .generic ig) :
    deep cm pf pp p sp s =
      match shallowMatch cm pf pp p sp s with
      | none => []
      | some b => deepKids cm ig pp 0 p.kids sp s [(b, 0)] 0 := by
  cases p with
  | mk k f fl kids =>
    rw [deep.eq_def]
    simp only [h, T.kids_mk]
    cases shallowMatch cm pf pp (T.mk k f fl kids) sp s <;> rfl

theorem deep_binflex {l op r sl sop sr : T} {b o : AstMap} (h : deepPre cm pf pp p sp s = .binflex)
    (hp : p.kids = [l, op, r]) (hb : shallowMatch false pf pp p sp s = some b) (hs : s.kids = [sl, sop, sr])
    (ho : shallowMatch true op.field (pp ++ [1]) op (sp ++ [1]) sop = some o) :
    deep cm pf pp p sp s =
      binflexHelper (b.merged o) (deep false l.field (pp ++ [0]) l (sp ++ [0]) sl)
          (deep false r.field (pp ++ [2]) r (sp ++ [2]) sr)
        ++ binflexHelper (b.merged o) (deep false l.field (pp ++ [0]) l (sp ++ [2]) sr)
          (deep false r.field (pp ++ [2]) r (sp ++ [0]) sl) := by
  cases p with
  | mk k f fl kids =>
    cases hp
    rw [deep.eq_def]
    simp only [h, hb, hs, ho]

theorem deep_binflex_shape {m : AstMap} (h : deepPre cm pf pp p sp s = .binflex) (hm : m ∈ deep cm pf pp p sp s) :
    ∃ l op r sl sop sr b o, p.kids = [l, op, r] ∧ shallowMatch false pf pp p sp s = some b ∧
      s.kids = [sl, sop, sr] ∧ shallowMatch true op.field (pp ++ [1]) op (sp ++ [1]) sop = some o := by
  cases p with
  | mk k f fl kids =>
    rw [deep.eq_def] at hm
    simp only [h] at hm
    split at hm
    · split at hm
      · cases hm
      · split at hm
        · split at hm
          · cases hm
          · exact ⟨_, _, _, _, _, _, _, _, rfl, by assumption, by assumption, by assumption⟩
        · cases hm
    · cases hm

/-! ### the invariant of `deep` results -/

def Under (pp : Path) (m : AstMap) : Prop := ∀ k ∈ keysOf m.mappings, pp <+: k

/-- keys are the parent's own path or lie under one of its children with an index in `I` -/
def KeysIn (m : AstMap) (pp : Path) (I : Nat → Prop) : Prop :=
  ∀ k ∈ keysOf m.mappings, k = pp ∨ ∃ i, I i ∧ (pp ++ [i]) <+: k

structure Good (m : AstMap) (pp : Path) (p : T) (sp : Path) (s : T) : Prop where
  under : Under pp m
  nodup : (keysOf m.mappings).Nodup
  emb : embAt m pp p sp s = true
  exps : ∀ kv ∈ m.exps, expSomewhere m kv.1 kv.2 pp p = true
  inv : ConfInv m
  noconf : m.conflicts = []

theorem KeysIn.under {m : AstMap} {pp : Path} {I : Nat → Prop} (h : KeysIn m pp I) : Under pp m := by
  intro k hk
  rcases h k hk with rfl | ⟨i, _, hp⟩
  · exact List.prefix_refl _
  · exact prefix_of_snoc_prefix hp

theorem KeysIn.mono {m : AstMap} {pp : Path} {I J : Nat → Prop} (h : KeysIn m pp I) (hIJ : ∀ i, I i → J i) :
    KeysIn m pp J := by
  intro k hk
  rcases h k hk with rfl | ⟨i, hi, hp⟩
  · exact Or.inl rfl
  · exact Or.inr ⟨i, hIJ i hi, hp⟩

theorem keysOf_of_maps {m : AstMap} {pp sp : Path} (h : m.mappings = [(pp, sp)]) : keysOf m.mappings = [pp] := by
  rw [h]; rfl

theorem ShallowGood.keysIn {b : AstMap} (h : ShallowGood b cm pf pp p sp s) (I : Nat → Prop) : KeysIn b pp I := by
  intro k hk
  rw [keysOf_of_maps h.maps, List.mem_singleton] at hk
  exact Or.inl hk

theorem ShallowGood.nodup {b : AstMap} (h : ShallowGood b cm pf pp p sp s) : (keysOf b.mappings).Nodup := by
  rw [keysOf_of_maps h.maps]; simp

theorem ShallowGood.root {b : AstMap} (h : ShallowGood b cm pf pp p sp s) : dictGet pp b.mappings = some sp := by
  simp [h.maps, dictGet]

theorem noconf_of_hasConflicts {m : AstMap} (h : m.hasConflicts = false) : m.conflicts = [] := by
  simpa [AstMap.hasConflicts] using h

theorem hasConflicts_of_noconf {m : AstMap} (h : m.conflicts = []) : m.hasConflicts = false := by
  simp [AstMap.hasConflicts, h]

/-- merging a map whose keys are all new keeps every old answer -/
theorem ext_merged_left {a b : AstMap} (hdisj : ∀ k ∈ keysOf b.mappings, k ∉ keysOf a.mappings) :
    Ext a (a.merged b) := by
  refine ⟨?_, ?_, ?_⟩
  · intro k v hk
    rw [merged_mappings]
    have hka : k ∈ keysOf a.mappings := by
      have := dictGet_mem hk
      exact List.mem_map.2 ⟨(k, v), this, rfl⟩
    have hkb : k ∉ keysOf b.mappings := fun h => hdisj k h hka
    rw [dictGet_dictUpdate_of_not_key hkb]; exact hk
  · intro k hk; rw [merged_exps]; exact dictGet_isSome_dictUpdate (Or.inl hk)
  · intro x hx; rw [merged_binds]; exact List.mem_append_left _ hx

theorem ext_merged_right {a b : AstMap} (hn : (keysOf b.mappings).Nodup) : Ext b (a.merged b) := by
  refine ⟨?_, ?_, ?_⟩
  · intro k v hk; rw [merged_mappings]; exact dictGet_dictUpdate_of_get hn hk
  · intro k hk; rw [merged_exps]; exact dictGet_isSome_dictUpdate (Or.inr hk)
  · intro x hx; rw [merged_binds]; exact List.mem_append_right _ hx

theorem keys_merged {a b : AstMap} {k : Path} (h : k ∈ keysOf (a.merged b).mappings) :
    k ∈ keysOf a.mappings ∨ k ∈ keysOf b.mappings := by
  rw [merged_mappings] at h; exact keysOf_dictUpdate_subset h

theorem nodup_merged {a b : AstMap} (h : (keysOf a.mappings).Nodup) : (keysOf (a.merged b).mappings).Nodup := by
  rw [merged_mappings]; exact nodup_keysOf_dictUpdate h

theorem mem_exps_merged {a b : AstMap} {kv : String × Path} (h : kv ∈ (a.merged b).exps) :
    kv ∈ a.exps ∨ kv ∈ b.exps := by
  rw [merged_exps] at h; exact mem_dictUpdate h

/-- merging in a match of child `i` when none of child `i` is in `a` yet: its keys are new, so both maps keep
all their answers -/
theorem merged_child {a r : AstMap} {pp : Path} {I : Nat → Prop} {i : Nat} (ha : KeysIn a pp I) (hi : ¬ I i)
    (hr : Under (pp ++ [i]) r) (hn : (keysOf r.mappings).Nodup) :
    KeysIn (a.merged r) pp (fun i' => I i' ∨ i' = i) ∧ Ext a (a.merged r) ∧ Ext r (a.merged r) := by
  refine ⟨?_, ext_merged_left ?_, ext_merged_right hn⟩
  · intro k hk
    rcases keys_merged hk with h | h
    · exact ha.mono (fun _ => Or.inl) k h
    · exact Or.inr ⟨i, Or.inr rfl, hr k h⟩
  · intro k hk1 hk2
    have hp := hr k hk1
    rcases ha k hk2 with rfl | ⟨i', hi', hp'⟩
    · exact not_snoc_prefix_self _ _ hp
    · exact hi (prefix_snoc_inj hp hp' ▸ hi')

/-- what the child loop guarantees for each of its results, relative to the base map it grew from -/
structure LoopRes (m : AstMap) (x : AstMap × Nat) (ig : List String) (pp : Path) (i : Nat) (rest : List T)
    (sp : Path) (s : T) : Prop where
  ext : Ext x.1 m
  under : Under pp m
  nodup : (keysOf m.mappings).Nodup
  inv : ConfInv m
  noconf : m.conflicts = []
  kids : ig = [] → embKids m pp i rest sp s true x.2 [] = true
  exps : ∀ kv ∈ m.exps, kv ∈ x.1.exps ∨ expSomewhereL m kv.1 kv.2 pp i rest = true

/-- a state of the child loop before child `i` -/
structure StGood (b : AstMap) (pp : Path) (i : Nat) : Prop where
  keys : KeysIn b pp (· < i)
  nodup : (keysOf b.mappings).Nodup
  inv : ConfInv b
  noconf : b.conflicts = []

theorem StGood.succ {b : AstMap} {pp : Path} {i : Nat} (h : StGood b pp i) : StGood b pp (i + 1) :=
  ⟨h.keys.mono fun _ h => Nat.lt_succ_of_lt h, h.nodup, h.inv, h.noconf⟩

theorem deepKids_good (cm : Bool) (ig : List String) (pp sp : Path) (s : T) (rest : List T)
    (hIH : ∀ c ∈ rest, ∀ cm pf pp sp s, ∀ m ∈ deep cm pf pp c sp s, Good m pp c sp s) :
    ∀ (i : Nat) (st : List (AstMap × Nat)) (y : Nat), (∀ x ∈ st, StGood x.1 pp i) →
      ∀ m ∈ deepKids cm ig pp i rest sp s st y, ∃ x ∈ st, LoopRes m x ig pp i rest sp s := by
  induction rest with
  | nil =>
    intro i st y hst m hm
    rw [deepKids] at hm
    simp only [List.mem_map] at hm
    obtain ⟨x, hx, rfl⟩ := hm
    have hg := hst x hx
    exact ⟨x, hx, Ext.refl _, hg.keys.under, hg.nodup, hg.inv, hg.noconf, fun _ => by rw [embKids],
      fun kv hkv => Or.inl hkv⟩
  | cons pc rest ih =>
    intro i st y hst m hm
    have ih' := ih (fun c hc => hIH c (List.mem_cons_of_mem _ hc))
    rw [deepKids] at hm
    split at hm
    · -- ignored child
      rename_i hign
      obtain ⟨x, hx, hr⟩ := ih' (i + 1) st y (fun x hx => (hst x hx).succ) m hm
      refine ⟨x, hx, hr.ext, hr.under, hr.nodup, hr.inv, hr.noconf, ?_, ?_⟩
      · intro hnil; subst hnil; simp at hign
      · intro kv hkv
        rcases hr.exps kv hkv with h | h
        · exact Or.inl h
        · right; rw [expSomewhereL]; simp [h]
    · cases hmm : mapMerge st (candsFrom (fun j sj => deep cm pc.field (pp ++ [i]) pc (sp ++ [j]) sj) y 0 s.kids) with
      | none => simp [hmm] at hm
      | some res =>
        obtain ⟨st', y'⟩ := res
        simp only [hmm] at hm
        -- every new state is an old one merged, without conflict, with a good match of this child at some `j`
        have hstep : ∀ x' ∈ st', ∃ x ∈ st, ∃ j r sj, x.2 ≤ j ∧ x'.2 = j + 1 ∧ s.kids[j]? = some sj ∧
            Good r (pp ++ [i]) pc (sp ++ [j]) sj ∧ x'.1 = x.1.merged r ∧ x'.1.conflicts = [] := by
          intro x' hx'
          obtain ⟨x, hx, c, hc, hge, r, hr, e1, e2, e3⟩ := mapMerge_mem hmm x' hx'
          obtain ⟨sj, hsj, _, hc3⟩ := candsFrom_mem _ _ _ hc
          exact ⟨x, hx, c.1, r, sj, hge, e3, by simpa using hsj,
            hIH pc List.mem_cons_self _ _ _ _ _ _ (hc3 ▸ hr), e1, noconf_of_hasConflicts e2⟩
        have hst' : ∀ x' ∈ st', StGood x'.1 pp (i + 1) := by
          intro x' hx'
          obtain ⟨x, hx, j, r, sj, _, _, _, hgr, e1, e2⟩ := hstep x' hx'
          have hg := hst x hx
          obtain ⟨hk, _, _⟩ := merged_child hg.keys (Nat.lt_irrefl i) hgr.under hgr.nodup
          rw [← e1] at hk
          exact ⟨hk.mono fun i' h => by omega, e1 ▸ nodup_merged hg.nodup, e1 ▸ confInv_merged _ _, e2⟩
        obtain ⟨x', hx', hr'⟩ := ih' (i + 1) st' y' hst' m hm
        obtain ⟨x, hx, j, r, sj, hge, e3, hsj, hgr, e1, _⟩ := hstep x' hx'
        obtain ⟨_, hxx', hrx'⟩ := merged_child (hst x hx).keys (Nat.lt_irrefl i) hgr.under hgr.nodup
        rw [← e1] at hxx' hrx'
        have hrm : Ext r m := hrx'.trans hr'.ext
        refine ⟨x, hx, hxx'.trans hr'.ext, hr'.under, hr'.nodup, hr'.inv, hr'.noconf, ?_, ?_⟩
        · intro hnil
          refine embKids_cons.2 ⟨j, sj, hrm.maps _ _ (embAt_root hgr.emb), hsj, hge,
            embAt_mono hrm _ _ _ _ hgr.emb, ?_⟩
          rw [embKids_used_irrel m pp sp s rest (i + 1) (j + 1) [j] [], ← e3]
          exact hr'.kids hnil
        · intro kv hkv
          rcases hr'.exps kv hkv with h | h
          · rw [e1] at h
            rcases mem_exps_merged h with h | h
            · exact Or.inl h
            · right
              rw [expSomewhereL]
              simp only [Bool.or_eq_true]
              exact Or.inl (expSomewhere_mono hrm _ _ _ _ (hgr.exps kv h))
          · right; rw [expSomewhereL]; simp [h]

/-! ### the main induction -/

theorem opLeavesL_eq (ks : List T) : opLeavesL ks = ks.all opLeaves := by
  induction ks with
  | nil => rfl
  | cons t ts ih => rw [opLeavesL, ih, List.all_cons]

theorem opLeaves_kids {k f : String} {fl : List Fld} {kids : List T} (h : opLeaves (.mk k f fl kids) = true) :
    ∀ c ∈ kids, opLeaves c = true := by
  rw [opLeaves, opLeavesL_eq, Bool.and_eq_true, List.all_eq_true] at h
  exact h.2

theorem opLeaves_leaf {t : T} (h : opLeaves t = true) (hk : t.kind = "Add" ∨ t.kind = "Mult") : t.kids = [] := by
  cases t with
  | mk k f fl kids =>
    rw [opLeaves] at h
    simp only [Bool.and_eq_true, Bool.or_eq_true, Bool.not_eq_true'] at h
    simp only [T.kind_mk] at hk
    rcases h.1 with h1 | h1
    · simp only [Bool.or_eq_false_iff, decide_eq_false_iff_not] at h1
      rcases hk with hk | hk
      · exact absurd hk h1.1
      · exact absurd hk h1.2
    · simpa using h1

theorem good_pairMap_wild (hr : role p = .wildcard) : Good (pairMap pp sp) pp p sp s := by
  refine ⟨?_, by simp [keysOf, pairMap], ?_, ?_, confInv_pairMap _ _, rfl⟩
  · intro k hk; simp only [keysOf, pairMap, List.map_cons, List.map_nil, List.mem_singleton] at hk
    rw [hk]; exact List.prefix_refl _
  · cases p with
    | mk k f fl ks =>
      rw [embAt]; simp [hr, pairMap, dictGet]
  · intro kv hkv; simp [pairMap] at hkv

theorem good_expMap {name : String} (hr : role p = .expPh name) : Good (expMap pp sp name) pp p sp s := by
  refine ⟨?_, by simp [keysOf, expMap, pairMap], ?_, ?_, confInv_of_no_binds rfl rfl, rfl⟩
  · intro k hk; simp only [keysOf, expMap, pairMap, List.map_cons, List.map_nil, List.mem_singleton] at hk
    rw [hk]; exact List.prefix_refl _
  · cases p with
    | mk k f fl ks =>
      rw [embAt]; simp [hr, expMap, pairMap, dictGet]
  · intro kv hkv
    simp only [expMap, List.mem_singleton] at hkv
    subst hkv
    cases p with
    | mk k f fl ks =>
      rw [expSomewhere]; simp [hr, expMap, pairMap, dictGet]

theorem good_generic {ig : List String} {k f : String} {fl : List Fld} {kids : List T} {b : AstMap}
    (hpre : deepPre cm pf pp (.mk k f fl kids) sp s = .generic ig)
    (hsh : shallowMatch cm pf pp (.mk k f fl kids) sp s = some b)
    (hIH : ∀ c ∈ kids, ∀ cm pf pp sp s, ∀ m ∈ deep cm pf pp c sp s, Good m pp c sp s) :
    ∀ m ∈ deepKids cm ig pp 0 kids sp s [(b, 0)] 0, Good m pp (.mk k f fl kids) sp s := by
  intro m hm
  have sg := shallowMatch_good hsh
  obtain ⟨hig, hflex, hrole⟩ := deepPre_generic hpre
  -- no `__e__` placeholder comes here: the metas would have failed, and only a Module is paired without them
  have hnexp : ∀ n, role (T.mk k f fl kids) ≠ .expPh n := by
    rcases sg.metas with hM | hmm
    · intro n hn; rw [role_module hM] at hn; cases hn
    · exact (hrole hmm).1
  have hst : ∀ x ∈ [(b, 0)], StGood x.1 pp 0 := by
    intro x hx
    rw [List.mem_singleton] at hx
    subst hx
    exact ⟨sg.keysIn _, sg.nodup, sg.inv, sg.noconf⟩
  obtain ⟨x, hx, hr⟩ := deepKids_good cm ig pp sp s kids hIH 0 [(b, 0)] 0 hst m hm
  rw [List.mem_singleton] at hx
  subst hx
  have hroot : dictGet pp m.mappings = some sp := hr.ext.maps _ _ sg.root
  -- all children were looked at, unless the node is a `Name`
  have hkids : k ≠ "Name" → embKids m pp 0 kids sp s true 0 [] = true :=
    fun hk => hr.kids (by rw [hig, T.kind_mk, if_neg hk])
  refine ⟨hr.under, hr.nodup, ?_, ?_, hr.inv, hr.noconf⟩
  · rw [embAt]
    simp only [hroot, decide_true, Bool.true_and]
    cases hrole : role (T.mk k f fl kids) with
    | wildcard => rfl
    | expPh key => exact absurd hrole (hnexp key)
    | wrapper =>
      refine hkids fun hk => ?_
      rw [role_name (p := T.mk k f fl kids) hk] at hrole
      split at hrole <;> cases hrole
    | concrete =>
      simp only [Bool.and_eq_true, Bool.or_eq_true, decide_eq_true_eq]
      refine ⟨nodeOk_mono hr.ext (sg.node hrole), ?_⟩
      by_cases hk : k = "Name"
      · exact Or.inl hk
      · right; rw [hflex]; exact hkids hk
  · intro kv hkv
    rw [expSomewhere]
    simp only [Bool.or_eq_true]
    rcases hr.exps kv hkv with h | h
    · rw [sg.exps hnexp] at h; cases h
    · exact Or.inr h

theorem good_binflex {k f : String} {fl : List Fld} {l op r : T} {sop sjl sjr : T}
    {b o lm rm m : AstMap} {jl jr : Nat} {pfo : String}
    (hkind : k = "BinOp") (hflex : flexOp (.mk k f fl [l, op, r]) = true)
    (hopk : op.kind = "Add" ∨ op.kind = "Mult") (hleaf : op.kids = [])
    (hb : ShallowGood b cm pf pp (.mk k f fl [l, op, r]) sp s)
    (ho : ShallowGood o true pfo (pp ++ [1]) op (sp ++ [1]) sop)
    (hs1 : s.kids[1]? = some sop) (hsl : s.kids[jl]? = some sjl) (hsr : s.kids[jr]? = some sjr)
    (hj : jl ≠ jr ∧ jl ≠ 1 ∧ jr ≠ 1)
    (hl : Good lm (pp ++ [0]) l (sp ++ [jl]) sjl) (hr : Good rm (pp ++ [2]) r (sp ++ [jr]) sjr)
    (hm : m = ((b.merged o).merged lm).merged rm) (hc : m.hasConflicts = false) :
    Good m pp (.mk k f fl [l, op, r]) sp s := by
  have hrole : role (T.mk k f fl [l, op, r]) = .concrete := role_of_other (by rw [T.kind_mk, hkind]; decide)
  have hoprole : role op = .concrete := role_of_other (by rcases hopk with h | h <;> rw [h] <;> decide)
  -- the node's own pair, then the matches of children 1 (the operator), 0 and 2
  obtain ⟨k1, e_b1, e_o1⟩ := merged_child (hb.keysIn fun _ => False) id (ho.keysIn fun _ => False).under ho.nodup
  obtain ⟨k2, e_12, e_l2⟩ := merged_child (i := 0) k1 (by simp) hl.under hl.nodup
  obtain ⟨k3, e_2m, e_rm⟩ := merged_child (i := 2) k2 (by simp) hr.under hr.nodup
  rw [← hm] at k3 e_2m e_rm
  have e_bm : Ext b m := e_b1.trans (e_12.trans e_2m)
  have e_om : Ext o m := e_o1.trans (e_12.trans e_2m)
  have e_lm : Ext lm m := e_l2.trans e_2m
  have hroot : dictGet pp m.mappings = some sp := e_bm.maps _ _ hb.root
  have hrootl : dictGet (pp ++ [0]) m.mappings = some (sp ++ [jl]) := e_lm.maps _ _ (embAt_root hl.emb)
  have hrooto : dictGet (pp ++ [1]) m.mappings = some (sp ++ [1]) := e_om.maps _ _ ho.root
  have hrootr : dictGet (pp ++ [2]) m.mappings = some (sp ++ [jr]) := e_rm.maps _ _ (embAt_root hr.emb)
  have hopemb : embAt m (pp ++ [1]) op (sp ++ [1]) sop = true := by
    cases op with
    | mk ok of ofl oks =>
      simp only [T.kids_mk] at hleaf
      subst hleaf
      rw [embAt]
      simp only [hrooto, hoprole, decide_true, Bool.true_and, Bool.and_eq_true, Bool.or_eq_true,
        decide_eq_true_eq]
      refine ⟨nodeOk_mono e_om (ho.node hoprole), Or.inr ?_⟩
      rw [embKids]
  refine ⟨k3.under, ?_, ?_, ?_, hm ▸ confInv_merged _ _, noconf_of_hasConflicts hc⟩
  · rw [hm]
    exact nodup_merged (nodup_merged (nodup_merged hb.nodup))
  · rw [embAt]
    simp only [hroot, hrole, decide_true, Bool.true_and, Bool.and_eq_true, Bool.or_eq_true,
      decide_eq_true_eq]
    refine ⟨nodeOk_mono e_bm (hb.node hrole), Or.inr ?_⟩
    rw [hflex]
    exact embKids_cons.2 ⟨jl, sjl, hrootl, hsl, by simp, embAt_mono e_lm _ _ _ _ hl.emb,
      embKids_cons.2 ⟨1, sop, hrooto, hs1, by simp [Ne.symm hj.2.1], hopemb,
        embKids_cons.2 ⟨jr, sjr, hrootr, hsr, by simp [hj.2.2, Ne.symm hj.1], embAt_mono e_rm _ _ _ _ hr.emb,
          by rw [embKids]⟩⟩⟩
  · -- neither the `+` / `*` node nor its operator is a placeholder
    have hbe : b.exps = [] := hb.exps fun n h => by rw [hrole] at h; cases h
    have hoe : o.exps = [] := ho.exps fun n h => by rw [hoprole] at h; cases h
    intro kv hkv
    rw [expSomewhere]
    simp only [Bool.or_eq_true]
    right
    rw [hm] at hkv
    rcases mem_exps_merged hkv with h | h
    · rcases mem_exps_merged h with h | h
      · rcases mem_exps_merged h with h | h
        · rw [hbe] at h; cases h
        · rw [hoe] at h; cases h
      · rw [expSomewhereL]
        simp only [Bool.or_eq_true]
        exact Or.inl (expSomewhere_mono e_lm _ _ _ _ (hl.exps kv h))
    · rw [expSomewhereL, expSomewhereL, expSomewhereL]
      simp only [Bool.or_eq_true]
      exact Or.inr (Or.inr (Or.inl (expSomewhere_mono e_rm _ _ _ _ (hr.exps kv h))))

theorem kidKind_one (l op r : T) : kidKind [l, op, r] 1 = op.kind := by
  simp [kidKind]

theorem flexOp_op {k f : String} {fl : List Fld} {l op r : T} (h : flexOp (.mk k f fl [l, op, r]) = true) :
    op.kind = "Add" ∨ op.kind = "Mult" := by
  simp only [flexOp, T.kids_mk, kidKind_one, Bool.and_eq_true, Bool.or_eq_true, decide_eq_true_eq] at h
  exact h.2.symm

/-- **Core of C10**: every map `deep_find_match` returns embeds the pattern node at the student node. -/
theorem deep_good : ∀ (p : T), opLeaves p = true → ∀ (cm : Bool) (pf : String) (pp sp : Path) (s : T),
    ∀ m ∈ deep cm pf pp p sp s, Good m pp p sp s := by
  intro p
  induction p using T.induct' with
  | h k f fl kids ih =>
    intro hop cm pf pp sp s m hm
    have hIH : ∀ c ∈ kids, ∀ cm pf pp sp s, ∀ m ∈ deep cm pf pp c sp s, Good m pp c sp s :=
      fun c hc => ih c hc (opLeaves_kids hop c hc)
    cases hpre : deepPre cm pf pp (T.mk k f fl kids) sp s with
    | done r =>
      rw [deep_done hpre] at hm
      rcases deepPre_done hpre with ⟨_, rfl⟩ | ⟨_, ⟨rfl, hr⟩ | ⟨n, rfl, hr⟩⟩
      · cases hm
      · rw [List.mem_singleton.1 hm]; exact good_pairMap_wild hr
      · rw [List.mem_singleton.1 hm]; exact good_expMap hr
    | generic ig =>
      rw [deep_generic hpre] at hm
      cases hsh : shallowMatch cm pf pp (T.mk k f fl kids) sp s with
      | none => simp [hsh] at hm
      | some b =>
        simp only [hsh] at hm
        exact good_generic hpre hsh hIH m hm
    | binflex =>
      obtain ⟨l, op, r, sl, sop, sr, b, o, hp, hsh, hsk, hso⟩ := deep_binflex_shape hpre hm
      rw [deep_binflex hpre hp hsh hsk hso, List.mem_append] at hm
      simp only [T.kids_mk] at hp
      subst hp
      obtain ⟨hkind, hflex⟩ := deepPre_binflex hpre
      have hopk := flexOp_op hflex
      have hleaf : op.kids = [] := opLeaves_leaf (opLeaves_kids hop op (by simp)) hopk
      have sgb := shallowMatch_good hsh
      have sgo := shallowMatch_good hso
      rcases hm with hm | hm
      · obtain ⟨lm, hlm, rm, hrm, e, hc⟩ := binflexHelper_mem hm
        exact good_binflex (jl := 0) (jr := 2) hkind hflex hopk hleaf sgb sgo
          (by rw [hsk]; rfl) (by rw [hsk]; rfl) (by rw [hsk]; rfl) (by decide)
          (hIH l (by simp) _ _ _ _ _ lm hlm) (hIH r (by simp) _ _ _ _ _ rm hrm) e hc
      · obtain ⟨lm, hlm, rm, hrm, e, hc⟩ := binflexHelper_mem hm
        exact good_binflex (jl := 2) (jr := 0) hkind hflex hopk hleaf sgb sgo
          (by rw [hsk]; rfl) (by rw [hsk]; rfl) (by rw [hsk]; rfl) (by decide)
          (hIH l (by simp) _ _ _ _ _ lm hlm) (hIH r (by simp) _ _ _ _ _ rm hrm) e hc

end Pedal.Cait
