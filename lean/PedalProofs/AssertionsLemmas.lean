import PedalModel.AssertionsFacts
import PedalModel.Gen.AssertionConds
/-
Helper lemmas for C07 (PedalProofs/C07.lean holds the property theorems).
-/
namespace Pedal.Assertions
open Pedal.Gen.Assertions

/-- What the guard makes of the evaluated condition when no operand is an error. -/
def evalOutcome (r : Res V) : Outcome :=
  match r with
  | .ok x => if truthy x.v then .fires else .silent
  | .error .unmodelled => .unmodelled
  | .error .raised => .fires

/-- The measured guard: error operands fire, raising conditions fire. -/
theorem outcome_guard (cond : CondExpr) (c : Ctx) :
    outcome wrapperGuard cond c = if anyErr c then .fires else evalOutcome (eval c cond) := by
  simp only [outcome, wrapperGuard, anyErr, evalOutcome, Bool.true_and]
  rfl

/-- `name`'s generated condition does exactly what the property demands of the relation `relOf name`. -/
def Correct (name : String) (cond : CondExpr) : Prop :=
  ∃ rel, relOf name = some rel ∧ ∀ c : Ctx, outcome wrapperGuard cond c = specOutcome c (rel c)

theorem correct_of (name : String) (cond : CondExpr) (rel : Ctx → Res Bool) (h : relOf name = some rel)
    (hc : ∀ c : Ctx, anyErr c = false → evalOutcome (eval c cond) = relOutcome (rel c)) : Correct name cond := by
  refine ⟨rel, h, fun c => ?_⟩
  rw [outcome_guard]
  cases he : anyErr c
  · simpa [specOutcome, he] using hc c he
  · simp [specOutcome, he]

theorem specOutcome_of_noErr (c : Ctx) (h : anyErr c = false) (r : Res Bool) :
    specOutcome c r = relOutcome r := by
  simp [specOutcome, h]

theorem noErr_sides (c : Ctx) (h : anyErr c = false) : isErr c.left = false ∧ isErr c.right = false := by
  have he : (isErr c.left || isErr c.right) = false := h
  cases h1 : isErr c.left <;> cases h2 : isErr c.right <;> simp [h1, h2] at he ⊢

/-- `Correct` from the case in which neither operand is an error (the guard covers the rest). -/
theorem correct_of_noErr (name : String) (cond : CondExpr) (rel : Ctx → Res Bool) (h : relOf name = some rel)
    (hc : ∀ c : Ctx, isErr c.left = false → isErr c.right = false →
      evalOutcome (eval c cond) = relOutcome (rel c)) : Correct name cond :=
  correct_of name cond rel h fun c he => hc c (noErr_sides c he).1 (noErr_sides c he).2

/-- What a proved assertion does on `c`, read off the relation `relOf` gives for its name. -/
theorem Correct.outcome_eq {name : String} {cond : CondExpr} {rel : Ctx → Res Bool} (h : Correct name cond)
    (hrel : relOf name = some rel) (c : Ctx) : outcome wrapperGuard cond c = specOutcome c (rel c) := by
  obtain ⟨r, hr, e⟩ := h
  cases hr.symm.trans hrel
  exact e c

/-- Two proved assertions whose relations give complementary answers on `c`, neither operand being an
    error: exactly one of them is silent. -/
theorem exclusive_of {a a' : String} {ca ca' : CondExpr} {rel rel' : Ctx → Res Bool}
    (ha : relOf a = some rel) (ha' : relOf a' = some rel') (hc : Correct a ca) (hc' : Correct a' ca')
    {c : Ctx} (hne : anyErr c = false) {b : Bool} (hev : rel c = .ok b) (hev' : rel' c = .ok (!b)) :
    (outcome wrapperGuard ca c = .silent ∧ outcome wrapperGuard ca' c = .fires) ∨
    (outcome wrapperGuard ca c = .fires ∧ outcome wrapperGuard ca' c = .silent) := by
  rw [hc.outcome_eq ha, hc'.outcome_eq ha', specOutcome_of_noErr c hne, specOutcome_of_noErr c hne, hev, hev']
  cases b <;> decide

end Pedal.Assertions
