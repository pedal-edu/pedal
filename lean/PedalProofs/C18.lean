import PedalModel.TifaWrapper
/-
C18 — TIFA analyses every parsable program, deterministically and idempotently.

Proved here: the wrapper (`process_code`), the cache (`tifa_analysis`), the node dispatch and the builtin
function/method table, for ANY behaviour `inner` of the parser + visitor.  "The visitor completes on the
introductory subset" is not a theorem (the visitor is the parameter); it is sampled by the harness.
-/
namespace Pedal.TifaWrapper
open Pedal.Gen.Tifa

/-! ### never raises -/

theorem filter_isSystem_issues (is : List Issue) : (is.map Fb.issue).filter Fb.isSystem = [] := by
  induction is with
  | nil => rfl
  | cons i is ih => exact ih

theorem processCode_contained {inner : Code → Inner} (h : Contained inner) (offset : Nat) (code : Code) :
    ∃ a fbs, processCode inner offset code = .ok (a, fbs) ∧
      (match inner code with
       | .ok _ => a.success = true ∧ (fbs.filter Fb.isSystem) = []
       | _ => a.success = false ∧ (fbs.filter Fb.isSystem).length = 1) := by
  have hc := h code
  unfold processCode
  generalize inner code = i at hc ⊢
  cases i with
  | ok raw => exact ⟨_, _, rfl, rfl, filter_isSystem_issues _⟩
  | parseFail e =>
    obtain ⟨h1, h2⟩ := hc
    simp only [h1, h2]
    exact ⟨_, _, rfl, rfl, rfl⟩
  | visitFail e raw =>
    obtain ⟨h1, h2⟩ := hc
    simp only [h1, h2]
    refine ⟨_, _, rfl, rfl, ?_⟩
    rw [List.filter_append, filter_isSystem_issues]
    rfl

/-- C18 "returns a result instead of raising": whatever `Exception` the parser or the visitor raises on
    a code string (with a printable message), `tifa_analysis` returns; when the code was not analysed
    before and an inner step failed, the result has `success = False` and exactly ONE system feedback was
    added to the report; when nothing failed, `success = True` and no system feedback. -/
theorem c18_never_raises {inner : Code → Inner} (h : Contained inner) (r : Report) (code : Code) :
    ∃ a r', tifaAnalysis inner r code = .ok (a, r') ∧
      (lookup code r.analyses = none →
        ∃ fbs, r'.feedback = r.feedback ++ fbs ∧
          (match inner code with
           | .ok _ => a.success = true ∧ fbs.filter Fb.isSystem = []
           | _ => a.success = false ∧ (fbs.filter Fb.isSystem).length = 1)) := by
  unfold tifaAnalysis
  cases lookup code r.analyses with
  | some a => exact ⟨a, r, rfl, nofun⟩
  | none =>
    obtain ⟨a, fbs, hp, hq⟩ := processCode_contained h r.offset code
    rw [hp]
    exact ⟨a, _, rfl, fun _ => ⟨fbs, rfl, hq⟩⟩

/-- The hypothesis is needed: a `BaseException` that is not an `Exception` escapes. -/
theorem c18_non_exception_escapes (e : Exc) (he : e.isException = false) (r : Report) (code : Code)
    (hl : lookup code r.analyses = none) :
    tifaAnalysis (fun _ => .visitFail e []) r code = .error e := by
  simp [tifaAnalysis, hl, processCode, he]

/-! ### idempotence -/

theorem tifaAnalysis_cached {inner : Code → Inner} {r : Report} {code : Code} {a : Analysis}
    (h : lookup code r.analyses = some a) : tifaAnalysis inner r code = .ok (a, r) := by
  simp only [tifaAnalysis, h]

/-- A call that returns has either found the code in the cache and left the report alone, or run
    `process_code` and put its result in front of the cache. -/
theorem tifaAnalysis_ok {inner : Code → Inner} {r r' : Report} {code : Code} {a : Analysis}
    (h : tifaAnalysis inner r code = .ok (a, r')) :
    (lookup code r.analyses = some a ∧ r' = r) ∨
    (lookup code r.analyses = none ∧ ∃ fbs, processCode inner r.offset code = .ok (a, fbs) ∧
      r' = { r with analyses := (code, a) :: r.analyses, latest := some a, feedback := r.feedback ++ fbs }) := by
  unfold tifaAnalysis at h
  split at h
  · cases h; exact .inl ⟨‹_›, rfl⟩
  · split at h
    · cases h
    · cases h; exact .inr ⟨‹_›, _, ‹_›, rfl⟩

theorem lookup_after {inner : Code → Inner} {r r' : Report} {code : Code} {a : Analysis}
    (h : tifaAnalysis inner r code = .ok (a, r')) : lookup code r'.analyses = some a := by
  obtain ⟨hl, rfl⟩ | ⟨_, _, _, rfl⟩ := tifaAnalysis_ok h
  · exact hl
  · exact if_pos rfl

/-- Once the cache holds `a` for the code, any number of calls returns `a` and leaves the report alone. -/
theorem repeatAnalysis_cached {inner : Code → Inner} {r : Report} {code : Code} {a : Analysis}
    (h : lookup code r.analyses = some a) (n : Nat) :
    repeatAnalysis inner code n r = .ok (List.replicate n a, r) := by
  induction n with
  | zero => rfl
  | succ n ih => simp only [repeatAnalysis, tifaAnalysis_cached h, ih, List.replicate_succ]

/-- C18 "analysing the same code again yields the same issues and attaches no additional feedback",
    for ANY repetition count: after one call returned `a` and left the report `r1`, `n` further calls all
    return `a` (the same labels, lines, success flag) and leave the report exactly `r1`. -/
theorem c18_idempotent {inner : Code → Inner} {r r1 : Report} {code : Code} {a : Analysis}
    (h : tifaAnalysis inner r code = .ok (a, r1)) (n : Nat) :
    repeatAnalysis inner code n r1 = .ok (List.replicate n a, r1) :=
  repeatAnalysis_cached (lookup_after h) n

/-- A call never changes what the cache holds for an already analysed code … -/
theorem lookup_preserved {inner : Code → Inner} {r r' : Report} {c code : Code} {a b : Analysis}
    (hl : lookup code r.analyses = some a) (h : tifaAnalysis inner r c = .ok (b, r')) :
    lookup code r'.analyses = some a := by
  obtain ⟨_, rfl⟩ | ⟨hc, _, _, rfl⟩ := tifaAnalysis_ok h
  · exact hl
  · have hne : c ≠ code := fun e => by rw [e, hl] at hc; cases hc
    exact (if_neg hne).trans hl

/-- … nor does any history of calls. -/
theorem lookup_runHistory {inner : Code → Inner} {code : Code} {a : Analysis} (cs : List Code) :
    ∀ {r r' : Report}, lookup code r.analyses = some a → runHistory inner cs r = .ok r' →
      lookup code r'.analyses = some a := by
  induction cs with
  | nil => exact fun hl h => by cases h; exact hl
  | cons c cs ih =>
    intro r r' hl h
    rw [runHistory] at h
    split at h
    · cases h
    · exact ih (lookup_preserved hl ‹_›) h

/-- So after ANY history of analyses of other (or the same) programs on this report, analysing the code
    again still returns the first result and adds nothing. -/
theorem c18_idempotent_after_history {inner : Code → Inner} {code : Code} {a : Analysis} (cs : List Code) :
    ∀ {r r' : Report}, lookup code r.analyses = some a → runHistory inner cs r = .ok r' →
      tifaAnalysis inner r' code = .ok (a, r') :=
  fun hl h => tifaAnalysis_cached (lookup_runHistory cs hl h)

/-! ### line bounds -/

theorem processCode_issue_origin {inner : Code → Inner} {offset : Nat} {code : Code} {a : Analysis} {fbs : List Fb}
    (h : processCode inner offset code = .ok (a, fbs)) :
    ∀ i ∈ a.issues, ∃ raw, (inner code = .ok raw ∨ ∃ e, inner code = .visitFail e raw) ∧
      ∃ j ∈ raw, i = locate offset j := by
  unfold processCode at h
  intro i hi
  cases hin : inner code with
  | ok raw =>
    rw [hin] at h
    cases h
    obtain ⟨j, hj, rfl⟩ := List.mem_map.1 hi
    exact ⟨raw, .inl rfl, j, hj, rfl⟩
  | parseFail e =>
    rw [hin] at h
    obtain ⟨_, ex, sr⟩ := e
    cases ex <;> cases sr <;> cases h
    cases hi
  | visitFail e raw =>
    rw [hin] at h
    obtain ⟨_, ex, sr⟩ := e
    cases ex <;> cases sr <;> cases h
    obtain ⟨j, hj, rfl⟩ := List.mem_map.1 hi
    exact ⟨raw, .inr ⟨_, rfl⟩, j, hj, rfl⟩

/-- C18 "every issue's line lies within the analysed source": given that the parser numbers nodes
    `1 … nlines` and that issues are located at AST nodes, every line of a returned issue is within
    `offset + 1 … offset + nlines` (offset = the submission's line offset, 0 for a plain file). -/
theorem c18_lines_within_source {inner : Code → Inner} (nlines : Nat) {r r' : Report} {code : Code} {a : Analysis}
    (hnode : ∀ raw, (inner code = .ok raw ∨ ∃ e, inner code = .visitFail e raw) →
        ∀ i ∈ raw, 1 ≤ i.nodeLine ∧ i.nodeLine ≤ nlines)
    (hl : lookup code r.analyses = none)
    (h : tifaAnalysis inner r code = .ok (a, r')) :
    ∀ i ∈ a.issues, r.offset + 1 ≤ i.line ∧ i.line ≤ r.offset + nlines := by
  obtain ⟨hc, _⟩ | ⟨_, fbs, hp, _⟩ := tifaAnalysis_ok h
  · rw [hl] at hc; cases hc
  intro i hi
  obtain ⟨raw, horigin, j, hj, rfl⟩ := processCode_issue_origin hp i hi
  have := hnode raw horigin j hj
  simp only [locate]
  omega

/-! ### dispatch -/

/-- With a `generic_visit` fallback no node class can make `visit` fail to find a handler. -/
theorem dispatchWith_total (methods : List String) (cls : String) :
    (dispatchWith methods true cls).isSome = true := by
  unfold dispatchWith
  split <;> simp

/-- `Tifa` has a `generic_visit` (generated flag), so `visit` finds a handler for ANY class name. -/
theorem dispatch_total (cls : String) : (dispatch cls).isSome = true := by
  rw [dispatch, show hasGenericVisit = true from rfl]
  exact dispatchWith_total _ _

/-- C18 dispatch: every concrete node class of the running interpreter's `ast` module (generated) has a
    handler in the generated method set of `Tifa` - its own `visit_<Class>` or `generic_visit`. -/
theorem c18_dispatch_total : ∀ c ∈ nodeClasses, (dispatch c.1).isSome = true :=
  fun c _ => dispatch_total c.1

/-! ### builtin table -/

/-- C18 builtin table: for EVERY generated row of the builtin function table, the documented
    str/list/dict/int/float/bool/num/set/tuple/file method tables and the builtin modules, the model of
    `FunctionType.__init__` yields a definition `visit_Call` can call (a given `definition` is a callable
    with TIFA's six arguments; otherwise `returns` is None / 'void' / 'identity' / 'element' / a
    zero-argument callable). -/
theorem c18_builtin_table_callable : ∀ row ∈ builtinRows, row.usable = true := by
  decide +kernel

-- the derivation is not vacuous: the three shapes of defect it rejects
example : (Row.mk "builtins" "sorted" .str .none).usable = false := by decide
example : (Row.mk "builtins" "__import__" .none .needsArgs).usable = false := by decide
example : (Row.mk "IntType" "bit_length" .wrongArity .none).usable = false := by decide
example : (Row.mk "builtins" "max" .none .element).usable = true := by decide

/-! ### determinism across analyses: no attribute store reaches process-wide state -/

theorem addAttr_of_not_writes {row : TypeClassRow} (h : row.owner.writesClassLevel = false) (f : String)
    (cf : ClassFields) : addAttr row f cf = cf :=
  if_neg (h ▸ Bool.false_ne_true)

/-- Stores on instances that own their `fields` leave the class-level dictionaries as they were. -/
theorem runStores_of_not_writes (ops : List (TypeClassRow × String))
    (h : ∀ op ∈ ops, op.1.owner.writesClassLevel = false) (cf : ClassFields) : runStores ops cf = cf := by
  induction ops with
  | nil => rfl
  | cons op ops ih =>
    rw [runStores, addAttr_of_not_writes (h op List.mem_cons_self)]
    exact ih fun op hop => h op (List.mem_cons_of_mem _ hop)

theorem typeClassRows_own : ∀ row ∈ typeClassRows, row.owner.writesClassLevel = false := by
  decide

/-- For EVERY sequence of attribute stores on instances of the (generated) Type classes, the class-level
    `fields` dictionaries are what they were: no analysis can leave anything behind through `add_attr`. -/
theorem c18_class_fields_stable (ops : List (TypeClassRow × String)) :
    (∀ op ∈ ops, op.1 ∈ typeClassRows) → ∀ cf, runStores ops cf = cf :=
  fun h => runStores_of_not_writes ops fun op hop => typeClassRows_own _ (h op hop)

/-- A visitor whose stores leave the class-level dictionaries alone leaves them alone over any history. -/
theorem afterHistory_stable (v : StatefulVisitor) (hv : ∀ cf code, runStores (v.run cf code).2 cf = cf)
    (history : List Code) : ∀ cf, afterHistory v history cf = cf := by
  induction history with
  | nil => exact fun _ => rfl
  | cons c cs ih =>
    intro cf
    rw [afterHistory, analyseWith, hv]
    exact ih cf

/-- C18 "deterministically": whatever the visitor reads from the class-level dictionaries, and whatever
    programs the same process analysed before (ANY history), a program's analysis is the analysis it gets
    in a new process - as long as the visitor's attribute stores are on instances of the generated Type
    classes (every one of which owns its `fields`). -/
theorem c18_deterministic_across_analyses (v : StatefulVisitor)
    (hv : ∀ cf code, ∀ op ∈ (v.run cf code).2, op.1 ∈ typeClassRows)
    (cf0 : ClassFields) (history : List Code) (code : Code) :
    (analyseWith v (afterHistory v history cf0) code).1 = (analyseWith v cf0 code).1 := by
  rw [afterHistory_stable v (fun cf code => c18_class_fields_stable _ (hv cf code) cf) history cf0]

/-- The table hypothesis is what carries the theorem: with ONE class whose instances share the class-level
    dictionary (the pinned tree's `LiteralStr`), a visitor that reads what it stored differs on the second run. -/
theorem c18_shared_fields_counterexample :
    ∃ (v : StatefulVisitor) (cf0 : ClassFields) (code : Code),
      (analyseWith v (afterHistory v [code] cf0) code).1 ≠ (analyseWith v cf0 code).1 := by
  refine ⟨⟨fun cf _ => (if cf = [("LiteralStr", [])] then .ok [⟨"incompatible_types", 2⟩] else .ok [],
                        [(⟨"LiteralStr", .classLevel⟩, "tag")])⟩, [("LiteralStr", [])], "name.tag += '!'", ?_⟩
  simp [analyseWith, afterHistory, runStores, addAttr, FieldsOwner.writesClassLevel, insertField]

-- non-vacuity: the generated table is not empty and contains the literal classes
example : (typeClassRows.find? (·.name = "LiteralStr")).isSome = true := by decide +kernel

-- non-vacuity of `Contained` and of the idempotence premise
example : Contained (fun _ => .visitFail ⟨"RecursionError", true, false⟩ []) := by
  intro c; exact ⟨rfl, rfl⟩

end Pedal.TifaWrapper
