import PedalProofs.CaitDeep
/-
C11 core, part 1: a tree matches itself (`deep` of a node against the same node is not empty), by structural
induction on the tree.  The introduction rules for the child loop and the commutative path are stated for any
property `Q` of maps that merging keeps and that excludes conflicts; CaitGen uses them again.
-/
namespace Pedal.Cait

/-- every placeholder key is bound to the identifier spelled like the key (what a tree matched against
itself produces) -/
def IdentBinds (m : AstMap) : Prop := ∀ b ∈ m.binds, b.id = b.key

theorem identBinds_pairMap (pp sp : Path) : IdentBinds (pairMap pp sp) := by
  intro b hb; simp [pairMap] at hb

/-- bindings that all follow one naming `ρ` cannot conflict -/
theorem merged_of_agree {ρ : String → String} {a b : AstMap} (ha : ∀ x ∈ a.binds, x.id = ρ x.key)
    (hb : ∀ x ∈ b.binds, x.id = ρ x.key) :
    (∀ x ∈ (a.merged b).binds, x.id = ρ x.key) ∧ (a.merged b).hasConflicts = false := by
  have hi : ∀ x ∈ (a.merged b).binds, x.id = ρ x.key := by
    intro x hx
    rw [merged_binds, List.mem_append] at hx
    exact hx.elim (ha x) (hb x)
  refine ⟨hi, hasConflicts_of_noconf (List.eq_nil_iff_forall_not_mem.2 fun k hk => ?_)⟩
  obtain ⟨x, hx, y, hy, h1, h2, h3⟩ := (confInv_merged a b k).1 hk
  exact h3 (by rw [hi x hx, hi y hy, h1, h2])

theorem identBinds_merged {a b : AstMap} (ha : IdentBinds a) (hb : IdentBinds b) :
    IdentBinds (a.merged b) ∧ (a.merged b).hasConflicts = false :=
  merged_of_agree (ρ := fun x => x) ha hb

/-! ### shallow self-match -/

theorem itemOk_self (x : Item) : itemOk x x = true := by
  cases x <;> simp [itemOk]

theorem zipAll_self {α : Type} {f : α → α → Bool} (h : ∀ a, f a a = true) : ∀ l : List α, zipAll f l l = true := by
  intro l
  induction l with
  | nil => rfl
  | cons a as ih => simp [zipAll, h a, ih]

theorem fieldOk_self (ig : List String) (f : Fld) : fieldOk ig f f = true := by
  by_cases hv : f.val = FVal.none
  · simp [fieldOk, hv]
  · rw [fieldOk_unfold hv]
    simp [zipAll_self itemOk_self]

variable {cm : Bool} {pf : String} {pp sp : Path} {k f1 f2 : String} {fl : List Fld} {ks1 ks2 : List T}

theorem shallowMain_self (ig : List String) (hm : metasMatch cm pf (.mk k f2 fl ks2) = true) :
    shallowMain cm pf ig pp (.mk k f1 fl ks1) sp (.mk k f2 fl ks2) = some (pairMap pp sp) := by
  simp [shallowMain, shallowMainB, hm, zipAll_self (fieldOk_self ig)]

theorem identBinds_addBind {m : AstMap} (h : IdentBinds m) {x : Bind} (hx : x.id = x.key) :
    IdentBinds (m.addBind x) := by
  intro b hb
  rw [addBind_binds, List.mem_append] at hb
  rcases hb with hb | hb
  · exact h b hb
  · simp only [List.mem_singleton] at hb; subst hb; exact hx

theorem symbolHandler_self {idVal : String} (hm : metasMatch cm pf (.mk k f2 fl ks2) = true) :
    ∃ b, symbolHandler cm pf idVal pp (.mk k f1 fl ks1) sp (.mk k f2 fl ks2) = some b ∧ IdentBinds b := by
  refine symbolHandler_cases (P := fun r => ∃ b, r = some b ∧ IdentBinds b) ?_ ?_ ?_ ?_
  · intro _ _ _ x hx1 hx2
    exact ⟨_, rfl, identBinds_addBind (identBinds_pairMap _ _) (hx2.trans hx1.symm)⟩
  · intro _ _ _
    exact ⟨_, rfl, fun b hb => by cases hb⟩
  · intro _ _
    exact ⟨_, rfl, identBinds_pairMap _ _⟩
  · intro _
    exact ⟨_, shallowMain_self _ hm, identBinds_pairMap _ _⟩

theorem shallowDef_self {tbl : Tbl} (ig : List String) (hm : metasMatch cm pf (.mk k f2 fl ks2) = true) :
    ∃ b, shallowDef cm pf tbl ig pp (.mk k f1 fl ks1) sp (.mk k f2 fl ks2) = some b ∧ IdentBinds b := by
  simp only [shallowDef, shallowMain_self ig hm, hm, T.kind_mk, T.strAttr, T.flds_mk, Bool.and_self,
    decide_true, if_true]
  cases nameClass (strOfFlds "name" fl) with
  | var => exact ⟨_, rfl, identBinds_addBind (identBinds_pairMap _ _) rfl⟩
  | _ => exact ⟨_, rfl, identBinds_pairMap _ _⟩

/-- `shallow_match` of a node against a node with the same kind and fields succeeds when the metas match -/
theorem shallowMatch_self (hm : metasMatch cm pf (.mk k f2 fl ks2) = true) :
    ∃ b, shallowMatch cm pf pp (.mk k f1 fl ks1) sp (.mk k f2 fl ks2) = some b ∧ IdentBinds b := by
  have hpair : ∃ b, some (pairMap pp sp) = some b ∧ IdentBinds b := ⟨_, rfl, identBinds_pairMap _ _⟩
  refine shallowMatch_cases (P := fun r => ∃ b, r = some b ∧ IdentBinds b) ?_ ?_ ?_ ?_ ?_
  · intro hk
    rw [if_pos (by simp [show k = "Module" from hk])]
    exact hpair
  · intro _ _
    exact symbolHandler_self hm
  · intro _
    rw [if_pos hm]
    exact hpair
  · intro _ ig _ _
    exact shallowDef_self ig hm
  · intro _
    exact ⟨_, shallowMain_self [] hm, identBinds_pairMap _ _⟩

/-! ### introduction rules for the child loop and the commutative path -/

theorem candsFrom_intro {f : Nat → T → List AstMap} {ys : Nat} :
    ∀ (l : List T) (j0 j : Nat) (sj : T), l[j - j0]? = some sj → j0 ≤ j → ys ≤ j → f j sj ≠ [] →
      (j, f j sj) ∈ candsFrom f ys j0 l := by
  intro l
  induction l with
  | nil => intro j0 j sj h; simp at h
  | cons a as ih =>
    intro j0 j sj h h1 h2 h3
    rw [candsFrom, List.mem_append]
    by_cases hj : j = j0
    · subst hj
      simp only [Nat.sub_self, List.getElem?_cons_zero, Option.some.injEq] at h
      subst h
      left
      have : ¬ j < ys := by omega
      simp only [this, if_false]
      have : (f j a).isEmpty = false := by simpa using h3
      simp [this]
    · right
      have : j - j0 = (j - (j0 + 1)) + 1 := by omega
      rw [this, List.getElem?_cons_succ] at h
      exact ih (j0 + 1) j sj h (by omega) h2 h3

/-- candidate indices come in increasing order: the first is the least -/
theorem candsFrom_head_le {f : Nat → T → List AstMap} {ys : Nat} :
    ∀ (l : List T) (j0 : Nat) (c0 : Nat × List AstMap) (rest : List (Nat × List AstMap)),
      candsFrom f ys j0 l = c0 :: rest → ∀ c ∈ candsFrom f ys j0 l, c0.1 ≤ c.1 := by
  intro l
  induction l with
  | nil => intro j0 c0 rest h; simp [candsFrom] at h
  | cons a as ih =>
    intro j0 c0 rest h c hc
    obtain ⟨_, _, hle, _⟩ := candsFrom_mem _ _ c hc
    rw [candsFrom] at h hc
    -- the segment for `a` is empty or the one candidate `(j0, _)`
    generalize hX : (if j0 < ys then ([] : List (Nat × List AstMap)) else
      (let r := f j0 a; if r.isEmpty then [] else [(j0, r)])) = X at h hc
    have hX' : X = [] ∨ ∃ r, X = [(j0, r)] := by
      rw [← hX]
      split
      · exact Or.inl rfl
      · simp only
        split
        · exact Or.inl rfl
        · exact Or.inr ⟨_, rfl⟩
    rcases hX' with rfl | ⟨r, rfl⟩
    · exact ih (j0 + 1) c0 rest h c hc
    · cases h
      exact hle

theorem mapMerge_intro {st : List (AstMap × Nat)} {cands : List (Nat × List AstMap)}
    {x : AstMap × Nat} {c : Nat × List AstMap} {r : AstMap}
    (hx : x ∈ st) (hc : c ∈ cands) (hge : x.2 ≤ c.1) (hr : r ∈ c.2)
    (hconf : (x.1.merged r).hasConflicts = false) :
    ∃ st' c0 rest, cands = c0 :: rest ∧ mapMerge st cands = some (st', c0.1 + 1) ∧
      (x.1.merged r, c.1 + 1) ∈ st' := by
  cases cands with
  | nil => cases hc
  | cons c0 rest =>
    have hmem : (x.1.merged r, c.1 + 1) ∈ st.flatMap (fun b => extendOne b.1 b.2 (c0 :: rest)) :=
      List.mem_flatMap.2 ⟨x, hx, mem_extendOne.2 ⟨c, hc, hge, r, hr, hconf, rfl⟩⟩
    refine ⟨_, c0, rest, rfl, ?_, hmem⟩
    simp only [mapMerge]
    have : (st.flatMap (fun b => extendOne b.1 b.2 (c0 :: rest))).isEmpty = false := by
      cases hh : st.flatMap (fun b => extendOne b.1 b.2 (c0 :: rest)) with
      | nil => rw [hh] at hmem; cases hmem
      | cons _ _ => rfl
    simp [this]

/-- a state of the child loop that can still use the student's children from index `j` on, and holds a map
with `Q` -/
def Ready (Q : AstMap → Prop) (st : List (AstMap × Nat)) (y j : Nat) : Prop :=
  y ≤ j ∧ ∃ x ∈ st, x.2 ≤ j ∧ Q x.1

theorem Ready.mono {Q : AstMap → Prop} {st : List (AstMap × Nat)} {y j j' : Nat} (h : Ready Q st y j)
    (hj : j ≤ j') : Ready Q st y j' := by
  obtain ⟨hy, x, hx, hxj, hq⟩ := h
  exact ⟨Nat.le_trans hy hj, x, hx, Nat.le_trans hxj hj, hq⟩

theorem Ready.init {Q : AstMap → Prop} {b : AstMap} (h : Q b) : Ready Q [(b, 0)] 0 0 :=
  ⟨Nat.le_refl _, (b, 0), List.mem_singleton_self _, Nat.le_refl _, h⟩

section Intro
variable {Q : AstMap → Prop} (hQ : ∀ a b, Q a → Q b → Q (a.merged b) ∧ (a.merged b).hasConflicts = false)
include hQ

/-- one round of the child loop.  The next round starts after the FIRST candidate, which is not past `j`. -/
theorem deepKids_step {cm : Bool} {ig : List String} {pp sp : Path} {i j y : Nat} {pc sj : T} {rest : List T}
    {s : T} {st : List (AstMap × Nat)} {r : AstMap} (hign : ¬ ig.contains pc.field = true)
    (hst : Ready Q st y j) (hsj : s.kids[j]? = some sj)
    (hr : r ∈ deep cm pc.field (pp ++ [i]) pc (sp ++ [j]) sj) (hqr : Q r) :
    ∃ st' y', deepKids cm ig pp i (pc :: rest) sp s st y = deepKids cm ig pp (i + 1) rest sp s st' y' ∧
      Ready Q st' y' (j + 1) := by
  obtain ⟨hy, x, hx, hxj, hqx⟩ := hst
  have hne : (fun j sj => deep cm pc.field (pp ++ [i]) pc (sp ++ [j]) sj) j sj ≠ [] := by
    intro h; simp only at h; rw [h] at hr; cases hr
  have hc := candsFrom_intro (f := fun j sj => deep cm pc.field (pp ++ [i]) pc (sp ++ [j]) sj)
    (ys := y) s.kids 0 j sj hsj (Nat.zero_le _) hy hne
  obtain ⟨hqm, hmc⟩ := hQ _ _ hqx hqr
  obtain ⟨st', c0, crest, hcs, hmm, hin⟩ := mapMerge_intro hx hc hxj hr hmc
  have hle := candsFrom_head_le s.kids 0 c0 crest hcs _ hc
  refine ⟨st', c0.1 + 1, ?_, by simp only at hle; omega, _, hin, Nat.le_refl _, hqm⟩
  rw [deepKids, if_neg hign]
  simp only [hmm]

omit hQ in
theorem deepKids_nil {cm : Bool} {ig : List String} {pp sp : Path} {i j y : Nat} {s : T}
    {st : List (AstMap × Nat)} (hst : Ready Q st y j) : ∃ m ∈ deepKids cm ig pp i [] sp s st y, Q m := by
  obtain ⟨_, x, hx, _, hq⟩ := hst
  rw [deepKids]
  exact ⟨x.1, List.mem_map.2 ⟨x, hx, rfl⟩, hq⟩

theorem binflexHelper_intro {base lm rm : AstMap} {L R : List AstMap} (hl : lm ∈ L) (hr : rm ∈ R)
    (hb : Q base) (hlm : Q lm) (hrm : Q rm) : ∃ m ∈ binflexHelper base L R, Q m := by
  obtain ⟨h1, _⟩ := hQ _ _ hb hlm
  obtain ⟨h2, hc⟩ := hQ _ _ h1 hrm
  refine ⟨_, ?_, h2⟩
  simp only [binflexHelper, List.mem_flatMap, List.mem_filterMap]
  exact ⟨lm, hl, rm, hr, by simp [hc]⟩

/-- the commutative path finds the operands where they stand -/
theorem deep_binflex_intro {cm : Bool} {pf : String} {pp sp : Path} {p s l op r sl sop sr : T} {b o : AstMap}
    (hpre : deepPre cm pf pp p sp s = .binflex) (hp : p.kids = [l, op, r]) (hs : s.kids = [sl, sop, sr])
    (hb : shallowMatch false pf pp p sp s = some b) (hqb : Q b)
    (ho : shallowMatch true op.field (pp ++ [1]) op (sp ++ [1]) sop = some o) (hqo : Q o)
    (hl : ∃ m ∈ deep false l.field (pp ++ [0]) l (sp ++ [0]) sl, Q m)
    (hr : ∃ m ∈ deep false r.field (pp ++ [2]) r (sp ++ [2]) sr, Q m) :
    ∃ m ∈ deep cm pf pp p sp s, Q m := by
  obtain ⟨lm, hlm, hql⟩ := hl
  obtain ⟨rm, hrm, hqr⟩ := hr
  obtain ⟨m, hm, hqm⟩ := binflexHelper_intro hQ hlm hrm (hQ _ _ hqb hqo).1 hql hqr
  rw [deep_binflex hpre hp hb hs ho]
  exact ⟨m, List.mem_append_left _ hm, hqm⟩

end Intro

/-! ### a tree matches itself -/

theorem T.setField_self (t : T) : t.setField t.field = t := by cases t; rfl

theorem metasMatch_none (cm : Bool) (s : T) : metasMatch cm "none" s = true := by
  simp [metasMatch]

theorem metasMatch_same (cm : Bool) (s : T) : metasMatch cm s.field s = true := by
  cases cm <;> simp [metasMatch]

/-- `t` matches a copy of itself (whatever field the copy's root carries) whenever the root metas match -/
def SelfDeep (t : T) : Prop :=
  ∀ (cm : Bool) (pf f2 : String) (pp sp : Path), metasMatch cm pf (t.setField f2) = true →
    ∃ m ∈ deep cm pf pp t sp (t.setField f2), IdentBinds m

theorem SelfDeep.same {t : T} (h : SelfDeep t) (cm : Bool) (pp sp : Path) :
    ∃ m ∈ deep cm t.field pp t sp t, IdentBinds m := by
  have := h cm t.field t.field pp sp (by rw [T.setField_self]; exact metasMatch_same cm t)
  rwa [T.setField_self] at this

theorem deepKids_self (cm : Bool) (ig : List String) (pp sp : Path) (s : T) (rest : List T)
    (hIH : ∀ c ∈ rest, SelfDeep c) :
    ∀ (done : List T), s.kids = done ++ rest → ∀ (st : List (AstMap × Nat)) (y : Nat),
      Ready IdentBinds st y done.length →
      ∃ m ∈ deepKids cm ig pp done.length rest sp s st y, IdentBinds m := by
  induction rest with
  | nil => intro done _ st y hst; exact deepKids_nil hst
  | cons pc rest ih =>
    intro done hs st y hst
    have ih' := ih (fun c hc => hIH c (List.mem_cons_of_mem _ hc)) (done ++ [pc]) (by rw [hs]; simp)
    rw [List.length_append, List.length_singleton] at ih'
    by_cases hign : ig.contains pc.field = true
    · rw [deepKids, if_pos hign]
      exact ih' st y (hst.mono (Nat.le_succ _))
    · -- the child matches its own copy at the same index
      obtain ⟨r, hr, hri⟩ := (hIH pc List.mem_cons_self).same cm (pp ++ [done.length]) (sp ++ [done.length])
      obtain ⟨st', y', e, hst'⟩ := deepKids_step (rest := rest) (fun _ _ => identBinds_merged) hign hst
        (by rw [hs]; simp) hr hri
      rw [e]
      exact ih' st' y' hst'

theorem binOp3L_eq (ks : List T) : binOp3L ks = ks.all binOp3 := by
  induction ks with
  | nil => rfl
  | cons t ts ih => rw [binOp3L, ih, List.all_cons]

theorem binOp3_kids {k f : String} {fl : List Fld} {kids : List T} (h : binOp3 (.mk k f fl kids) = true) :
    (∀ c ∈ kids, binOp3 c = true) ∧ (k = "BinOp" → ∃ l op r, kids = [l, op, r]) := by
  rw [binOp3, binOp3L_eq] at h
  simp only [Bool.and_eq_true, Bool.or_eq_true, Bool.not_eq_true', decide_eq_false_iff_not,
    decide_eq_true_eq, List.all_eq_true] at h
  refine ⟨h.2, fun hk => ?_⟩
  have h3 : kids.length = 3 := h.1.resolve_left (fun h1 => h1 hk)
  match kids, h3 with
  | [l, op, r], _ => exact ⟨l, op, r, rfl⟩

/-- **Core of C11 (self-match)**: matching a tree against a copy of itself succeeds. -/
theorem deep_self : ∀ (t : T), binOp3 t = true → SelfDeep t := by
  intro t
  induction t using T.induct' with
  | h k f fl kids ih =>
    intro hb cm pf f2 pp sp hm
    obtain ⟨hbk, hb3⟩ := binOp3_kids hb
    have hIH : ∀ c ∈ kids, SelfDeep c := fun c hc => ih c hc (hbk c hc)
    simp only [T.setField] at hm ⊢
    cases hpre : deepPre cm pf pp (T.mk k f fl kids) sp (T.mk k f2 fl kids) with
    | done r =>
      rw [deep_done hpre]
      rcases deepPre_done hpre with ⟨h, _⟩ | ⟨_, ⟨rfl, _⟩ | ⟨n, rfl, _⟩⟩
      · rw [hm] at h; cases h
      · exact ⟨_, List.mem_singleton_self _, identBinds_pairMap _ _⟩
      · exact ⟨_, List.mem_singleton_self _, fun b hb => by cases hb⟩
    | generic ig =>
      obtain ⟨b, hsb, hbi⟩ := shallowMatch_self (pp := pp) (sp := sp) (f1 := f) (ks1 := kids) hm
      rw [deep_generic hpre]
      simp only [hsb]
      exact deepKids_self cm ig pp sp (T.mk k f2 fl kids) kids hIH [] rfl [(b, 0)] 0 (Ready.init hbi)
    | binflex =>
      obtain ⟨l, op, r, rfl⟩ := hb3 (deepPre_binflex hpre).1
      obtain ⟨b, hsb, hbi⟩ := shallowMatch_self (cm := false) (pf := pf) (pp := pp) (sp := sp) (f1 := f)
        (f2 := f2) (k := k) (fl := fl) (ks1 := [l, op, r]) (ks2 := [l, op, r]) (by simp [metasMatch])
      obtain ⟨o, hso, hoi⟩ : ∃ o, shallowMatch true op.field (pp ++ [1]) op (sp ++ [1]) op = some o ∧
          IdentBinds o := by
        cases op with
        | mk ok of ofl oks => exact shallowMatch_self (metasMatch_same true _)
      exact deep_binflex_intro (fun _ _ => identBinds_merged) hpre rfl rfl hsb hbi hso hoi
        ((hIH l (by simp)).same false _ _) ((hIH r (by simp)).same false _ _)

end Pedal.Cait
