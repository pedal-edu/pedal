import PedalModel.ResolverSpec
/-
`merge_eq_spec`: the hand-written resolver model's `merge` (which the C01-C03 theorems are stated about) is
the effect reading `mergeTailSpec` applied effect by effect.  Proved once; does not depend on the tree under
test (the generated program is compared with `mergeTailSpec` in MergeIRLemmas.lean).
-/
namespace Pedal.Resolver
open Pedal.Gen.Resolver Pedal.MergeIR

theorem kindTag_eq_compliment (f : Fb) : kindTag f = .compliment ↔ (f.kind == some complimentKind) = true := by
  unfold kindTag; split <;> simp_all <;> split <;> simp

/-- The hand model's `merge` is the hand-written reading applied effect by effect. -/
theorem merge_eq_spec (sups : List Sup) (st : Final) (f : Fb) :
    merge sups st f =
      if suppressed sups f then st else (mergeTailSpec (obsOf st f)).foldl (applyEffect f) st := by
  unfold merge
  split
  · rfl
  extract_lets st1 st2
  -- the effects in three groups: the unmodelled `systems` list, the score, the ladder
  have hscore : (if (!f.unscored && f.score.isSome) = true
        then [Effect.pushScore (invertLogic f), .resolvedScore (invertLogic f)] else []).foldl (applyEffect f) st
      = st1 := by
    rw [apply_ite (List.foldl (applyEffect f) st)]; rfl
  have hmsg : st1.message = st.message := by simp only [st1]; split <;> rfl
  have hcor : st1.correct = st.correct := by simp only [st1]; split <;> rfl
  have hsys : ∀ b : Bool, (if b then [Effect.append .systems] else []).foldl (applyEffect f) st = st := by
    intro b; cases b <;> rfl
  dsimp +instances only [mergeTailSpec, obsOf]
  simp only [List.foldl_append, hsys]
  rw [show ((!f.negative) == !f.triggered) = invertLogic f from rfl, hscore]
  clear_value st1
  split
  · rfl
  split
  · rfl
  simp only [kindTag_eq_compliment]
  split
  · rfl
  -- the `instructions` list is not modelled either
  have hins : ∀ (b : Prop) [Decidable b] (s : Final),
      (if b then [Effect.append .instructions] else []).foldl (applyEffect f) s = s := by
    intros; split <;> rfl
  simp only [List.foldl_append, hins, List.foldl_cons, List.foldl_nil, ← hmsg, ← hcor]
  cases hf : f.message <;> cases hm : st1.message <;> simp [st2, hm, hf, applyEffect]

end Pedal.Resolver
