import PedalModel.ProcState
import PedalProofs.FeedbackCoreLemmas
/-
Lemmas for C13: field bookkeeping, what the table obligation gives, the invariant every history keeps,
and the simulation between two runs that start from states `Report.clear` cannot tell apart.
-/
namespace Pedal.ProcState
open Pedal.FeedbackCore

/-! ### plain fields -/

theorem dirty_other (fs : Fields) (f g tok : String) (h : g ≠ f) : dirty fs f tok g = fs g :=
  if_neg h

theorem dirtyAll_notin (names : List String) (tok g : String) (hg : g ∉ names) (fs : Fields) :
    dirtyAll fs names tok g = fs g := by
  induction names generalizing fs with
  | nil => rfl
  | cons n rest ih =>
    rw [List.mem_cons, not_or] at hg
    exact (ih hg.2 _).trans (dirty_other _ _ _ _ hg.1)

/-- A poke reaches at most the poked field, and only if other modules really write it. -/
theorem pokeField_other (ext : List String) (fs : Fields) (f g tok : String)
    (h : ext.contains f = true → g ≠ f) : pokeField ext fs f tok g = fs g := by
  unfold pokeField
  split
  · exact dirty_other _ _ _ _ (h ‹_›)
  · rfl

theorem applyStep_apply (T : Tables) (fs : Fields) (s : ClearStep) (g : String) :
    applyStep T fs s g = if T.isResetOf g s then [] else fs g := by
  cases s with
  | restoreEach _ => rfl
  | reset f how =>
    simp only [applyStep, Tables.isResetOf, Bool.and_eq_true, beq_iff_eq]
    by_cases hg : f = g
    · subst hg
      cases T.kindOf f with
      | none => simp
      | some k => by_cases hk : resetOk k how = true <;> simp [hk, resetField]
    · have : resetField fs f g = fs g := if_neg (Ne.symm hg)
      cases T.kindOf f with
      | none => simp [hg]
      | some k => by_cases hk : resetOk k how = true <;> simp [hk, hg, this]

/-- `Report.clear` empties exactly the fields the table says it resets. -/
theorem clearFields_apply (T : Tables) (fs : Fields) (g : String) :
    clearFields T fs g = if T.resets g then [] else fs g := by
  unfold clearFields Tables.resets
  generalize T.clearSteps = steps
  induction steps generalizing fs with
  | nil => rfl
  | cons s rest ih =>
    rw [List.foldl_cons, ih, applyStep_apply, List.any_cons]
    cases T.isResetOf g s <;> simp

/-! ### what the table obligation gives -/

theorem mem_of_lookup {α β} [BEq α] [LawfulBEq α] {l : List (α × β)} {k : α} {v : β} (h : l.lookup k = some v) :
    (k, v) ∈ l := by
  obtain ⟨l₁, l₂, rfl, _⟩ := List.lookup_eq_some_iff.mp h
  simp

structure TableFacts (T : Tables) : Prop where
  initReset : ∀ f, f ∈ T.names → f ∈ exempt ∨ T.resets f = true
  methodOk : ∀ m fs, T.dirtiesOf m = some fs → ∀ f, f ∈ fs → f ∈ T.names ∧ f ∉ exempt
  externalOk : ∀ f, T.externalDirties.contains f = true → f ∈ T.names ∧ f ∉ exempt
  classOk : ∀ m cfs, T.classDirties.lookup m = some cfs → m ≠ "register_tool" →
    cfs.all (fun f => T.classAttrs.contains f) = false
  toolsReset : T.resets "_tool_data" = true
  restores : T.restoresOverrides = true
  lazy : T.lazyToolReset = true
  poolsCleared : T.restoreClearsPools = true
  poolRegisters : T.poolOverrideRegisters = true
  envClears : T.envClearsFirst = true
  rebuilds : T.tifaResetRebuilds = true

/-- The obligation, clause by clause.  Four clauses (nothing untranslated, no attribute created from outside,
    per-class backups, `override` registers) say that the translator saw what the model takes for granted: the
    model has no switch for them, so nothing below uses them. -/
theorem tableOk_clauses {T : Tables} (h : tableOk T = true) :
    (∀ f ∈ allDirtied T, f ∈ T.names ∧ f ∉ exempt) ∧ TableFacts T := by
  simp only [tableOk, Bool.and_eq_true, List.all_eq_true] at h
  obtain ⟨⟨⟨⟨⟨⟨⟨⟨⟨⟨⟨⟨⟨h1, h2⟩, h3⟩, _⟩, _⟩, h6⟩, h7⟩, h8⟩, _⟩, _⟩, h11⟩, h12⟩, h13⟩, h14⟩ := h
  have hd : ∀ f ∈ allDirtied T, f ∈ T.names ∧ f ∉ exempt := fun f hf => by simpa using h2 f hf
  refine ⟨hd, fun f hf => by simpa using h1 f hf, fun m fs hm f hf => hd f ?_, fun f hf => hd f ?_, ?_,
    h6, h7, h8, h11, h12, h13, h14⟩
  · exact List.mem_append_left _ (List.mem_flatMap.mpr ⟨(m, fs), mem_of_lookup hm, hf⟩)
  · exact List.mem_append_right _ (by simpa using hf)
  · intro m cfs hm hne
    simpa [hne] using h3 (m, cfs) (mem_of_lookup hm)

theorem tableFacts (T : Tables) (h : tableOk T = true) : TableFacts T := (tableOk_clauses h).2

/-! ### the class store: two stores that differ only in `None` vs `{}` backups behave alike -/

/-- Same class dictionaries, same hierarchy, same backed-up values, same registrations
    (a class whose `_override_backups` is missing and one whose dictionary is empty are alike). -/
structure StoreEq (s t : Store) : Prop where
  own : s.own = t.own
  mro : s.mro = t.mro
  backupOf : ∀ c, s.backupOf c = t.backupOf c
  overridden : s.overridden = t.overridden

theorem StoreEq.lookup {s t : Store} (h : StoreEq s t) (c a : String) : s.lookup c a = t.lookup c a :=
  Store.lookup_congr s t h.own h.mro c a

/-- outcomes of two runs of the same store operation -/
def RelE : Except Exc Store → Except Exc Store → Prop
  | .ok s, .ok t => StoreEq s t
  | .error e, .error e' => e = e'
  | _, _ => False

theorem overrideOne_eq {s t : Store} (h : StoreEq s t) (c f : String) (v : AVal) :
    RelE (s.overrideOne c f v) (t.overrideOne c f v) := by
  unfold Store.overrideOne
  rw [h.backupOf c, h.lookup c f, h.own]
  cases (t.backupOf c).lookup f with
  | some _ => exact ⟨rfl, h.mro, h.backupOf, h.overridden⟩
  | none =>
    cases t.lookup c f with
    | none => exact rfl
    | some _ =>
      refine ⟨rfl, h.mro, fun k => ?_, h.overridden⟩
      rw [Store.backupOf_setBackups, Store.backupOf_setBackups, h.backupOf k]

theorem overrideLoop_eq (c : String) (fs : List (String × AVal)) :
    ∀ s t : Store, StoreEq s t →
      StoreEq (s.overrideLoop c fs).1 (t.overrideLoop c fs).1 ∧ (s.overrideLoop c fs).2 = (t.overrideLoop c fs).2 := by
  induction fs with
  | nil => exact fun s t h => ⟨h, rfl⟩
  | cons p rest ih =>
    intro s t h
    have hr := overrideOne_eq h c p.1 p.2
    unfold Store.overrideLoop
    revert hr
    cases s.overrideOne c p.1 p.2 <;> cases t.overrideOne c p.1 p.2 <;> intro hr
    · exact ⟨h, congrArg some hr⟩
    · exact hr.elim
    · exact hr.elim
    · exact ih _ _ hr

theorem override_eq {s t : Store} (h : StoreEq s t) (c : String) (fs : List (String × AVal)) :
    StoreEq (s.override c fs).1 (t.override c fs).1 ∧ (s.override c fs).2 = (t.override c fs).2 := by
  unfold Store.override
  apply overrideLoop_eq
  refine ⟨h.own, h.mro, fun k => ?_, ?_⟩
  · rw [Store.backupOf_setBackups_self, Store.backupOf_setBackups_self, h.backupOf k]
  · show (if c ∈ s.overridden then _ else _) = _
    rw [h.overridden]

theorem mem_register {s : Store} {c k : String} : k ∈ (register s c).overridden ↔ k ∈ s.overridden ∨ k = c :=
  Store.mem_register

theorem register_inv {s0 s : Store} (c : String) (h : Store.Inv s0 s) : Store.Inv s0 (register s c) :=
  ⟨h.mro, h.orig, fun k hk => mem_register.mpr (.inl (h.reg k hk))⟩

theorem register_eq {s t : Store} (h : StoreEq s t) (c : String) : StoreEq (register s c) (register t c) :=
  ⟨h.own, h.mro, h.backupOf, by unfold register; rw [h.overridden]⟩

/-! ### the invariant every history keeps -/

structure Inv (T : Tables) (s0 : Store) (w : World) : Prop where
  store : Store.Inv s0 w.store
  exemptNil : ∀ f, f ∈ exempt → w.fields f = []
  outside : ∀ f, f ∉ T.names → w.fields f = []
  pools : w.pools ≠ [] → w.store.overridden ≠ []

/-- what `Report.clear` leaves behind -/
structure Fresh (s0 : Store) (w : World) : Prop where
  fields : w.fields = fun _ => []
  tools : w.tools = []
  pools : w.pools = []
  own : w.store.own = s0.own
  mro : w.store.mro = s0.mro
  pristine : w.store.Pristine

theorem fresh_init (s0 : Store) (hp : s0.Pristine) : Fresh s0 (init s0) := ⟨rfl, rfl, rfl, rfl, rfl, hp⟩

theorem fresh_inv (T : Tables) {s0 : Store} {w : World} (h : Fresh s0 w) : Inv T s0 w :=
  ⟨.of_pristine h.own h.mro h.pristine, fun f _ => congrFun h.fields f, fun f _ => congrFun h.fields f,
    fun hp => absurd h.pools hp⟩

/-- The invariant survives any write that leaves the exempt fields and the names `__init__` does not make alone. -/
theorem Inv.setFields {T : Tables} {s0 : Store} {w : World} (hw : Inv T s0 w) (fs : Fields)
    (h : ∀ g, g ∈ exempt ∨ g ∉ T.names → fs g = w.fields g) : Inv T s0 { w with fields := fs } :=
  ⟨hw.store, fun g hg => (h g (.inl hg)).trans (hw.exemptNil g hg),
    fun g hg => (h g (.inr hg)).trans (hw.outside g hg), hw.pools⟩

theorem dirtyAll_inv {T : Tables} {s0 : Store} {w : World} (hw : Inv T s0 w) (fs : List String) (tok : String)
    (hfs : ∀ f, f ∈ fs → f ∈ T.names ∧ f ∉ exempt) :
    Inv T s0 { w with fields := dirtyAll w.fields fs tok } :=
  hw.setFields _ fun g hg => dirtyAll_notin fs tok g (fun hm => hg.elim (hfs g hm).2 (· (hfs g hm).1)) _

theorem pokeField_inv {T : Tables} {s0 : Store} {w : World} (F : TableFacts T) (hw : Inv T s0 w) (f tok : String) :
    Inv T s0 { w with fields := pokeField T.externalDirties w.fields f tok } :=
  hw.setFields _ fun g hg => pokeField_other _ _ _ _ _ fun hc e => by
    subst e
    exact hg.elim (F.externalOk g hc).2 (· (F.externalOk g hc).1)

/-- A `Report` method call dirties some resettable fields and ends in a way that depends on the method only
    (a method that changes nothing dirties the empty list). -/
theorem callMethod_eq {T : Tables} (F : TableFacts T) (m tok : String) :
    ∃ fs halt, (∀ f, f ∈ fs → f ∈ T.names ∧ f ∉ exempt) ∧
      ∀ w, callMethod T w m tok = ⟨{ w with fields := dirtyAll w.fields fs tok }, [], halt⟩ := by
  unfold callMethod
  cases hm : T.dirtiesOf m with
  | some fs => exact ⟨fs, none, F.methodOk m fs hm, fun _ => rfl⟩
  | none =>
    cases hc : T.classDirties.lookup m with
    | none => exact ⟨[], _, fun _ h => (List.not_mem_nil h).elim, fun _ => rfl⟩
    | some cfs =>
      dsimp only
      split
      · exact ⟨[], _, fun _ h => (List.not_mem_nil h).elim, fun _ => rfl⟩
      · rw [F.classOk m cfs hc ‹_›]
        exact ⟨[], _, fun _ h => (List.not_mem_nil h).elim, fun _ => rfl⟩

theorem callMethod_inv {T : Tables} {s0 : Store} {w : World} (F : TableFacts T) (hw : Inv T s0 w) (m tok : String) :
    Inv T s0 (callMethod T w m tok).w := by
  obtain ⟨fs, _, hfs, h⟩ := callMethod_eq F m tok
  rw [h]
  exact dirtyAll_inv hw fs tok hfs

theorem clear_fresh {T : Tables} {s0 : Store} {w : World} (F : TableFacts T) (hw : Inv T s0 w) :
    Fresh s0 (w.clear T) := by
  obtain ⟨ho, hm, hp⟩ := Store.clearIn_restores hw.store w.store.overridden fun _ hc => hc
  unfold World.clear
  simp only [F.toolsReset, F.restores, F.poolsCleared, Bool.true_and, if_true]
  refine ⟨funext fun f => (clearFields_apply T w.fields f).trans ?_, rfl, ?_, ho, hm, hp⟩
  · split
    · rfl
    · next hr =>
      by_cases hf : f ∈ T.names
      · exact hw.exemptNil f ((F.initReset f hf).resolve_right hr)
      · exact hw.outside f hf
  · show (if (!w.store.overridden.isEmpty) = true then [] else w.pools) = []
    split
    · rfl
    · next he =>
      refine Classical.byContradiction fun hne => hw.pools hne ?_
      simpa using he

theorem ensureTool_fields (T : Tables) (w : World) (t : String) :
    (ensureTool T w t).fields = w.fields ∧ (ensureTool T w t).store = w.store ∧ (ensureTool T w t).pools = w.pools := by
  unfold ensureTool
  split
  · exact ⟨rfl, rfl, rfl⟩
  · split <;> exact ⟨rfl, rfl, rfl⟩

theorem ensureTool_inv {T : Tables} {s0 : Store} {w : World} (hw : Inv T s0 w) (t : String) :
    Inv T s0 (ensureTool T w t) := by
  obtain ⟨hf, hs, hp⟩ := ensureTool_fields T w t
  exact ⟨hs ▸ hw.store, fun f h => hf ▸ hw.exemptNil f h, fun f h => hf ▸ hw.outside f h,
    by rw [hp, hs]; exact hw.pools⟩

theorem step_inv {T : Tables} {s0 : Store} {w : World} (F : TableFacts T) (hw : Inv T s0 w) (op : Op) :
    Inv T s0 (step T w op).w := by
  cases op with
  | call m tok => exact callMethod_inv F hw m tok
  | poke f tok => exact pokeField_inv F hw f tok
  | feedback c attrs trig tok => exact callMethod_inv F hw _ tok
  | override c fs =>
    have ⟨hi, hreg⟩ := Store.override_inv c fs hw.store
    exact ⟨hi, hw.exemptNil, hw.outside, fun _ => List.ne_nil_of_mem hreg⟩
  | overrideForPool c pool fs =>
    simp only [step, ok, F.poolRegisters, ↓reduceIte]
    exact ⟨register_inv c hw.store, hw.exemptNil, hw.outside,
      fun _ => List.ne_nil_of_mem (mem_register.mpr (.inr rfl))⟩
  | useTool t => exact ensureTool_inv hw t
  | mutateTool t tok =>
    have h := ensureTool_inv hw t
    exact ⟨h.store, h.exemptNil, h.outside, h.pools⟩
  | tifa tok =>
    have h := ensureTool_inv hw "tifa"
    exact ⟨h.store, h.exemptNil, h.outside, h.pools⟩
  | resolve probes =>
    have h1 := callMethod_inv F hw "finalize_pools" "resolve"
    have h2 := pokeField_inv F h1 "result" "resolve"
    exact pokeField_inv F h2 "resolves" "resolve"
  | clearReport => exact fresh_inv T (clear_fresh F hw)
  | crash e => exact hw

theorem run_inv {T : Tables} {s0 : Store} (F : TableFacts T) (ops : List Op) :
    ∀ w : World, Inv T s0 w → Inv T s0 (run T w ops).w := by
  induction ops with
  | nil => exact fun w hw => hw
  | cons op rest ih =>
    intro w hw
    have h1 := step_inv F hw op
    simp only [run]
    split
    · exact h1
    · exact ih _ h1

/-- A grading is `Report.clear` followed by one run: contextualising is the first call of that run. -/
theorem grade_eq_run {T : Tables} (F : TableFacts T) (w : World) (g : Grading) :
    grade T w g = run T (w.clear T) (.call "contextualize" g.sub :: (g.env ++ g.script)) := by
  obtain ⟨fs, halt, _, e⟩ := callMethod_eq F "contextualize" g.sub
  simp only [grade, F.envClears, if_true, run, step, e]
  cases halt <;> rfl

theorem grade_inv {T : Tables} {s0 : Store} {w : World} (F : TableFacts T) (hw : Inv T s0 w) (g : Grading) :
    Inv T s0 (grade T w g).w := by
  rw [grade_eq_run F]
  exact run_inv F _ _ (fresh_inv T (clear_fresh F hw))

theorem runAll_inv {T : Tables} {s0 : Store} (F : TableFacts T) (h : List Grading) {w : World} (hw : Inv T s0 w) :
    Inv T s0 (runAll T w h) :=
  h.foldlRecOn _ hw fun _ hw g _ => grade_inv F hw g

/-! ### simulation: states that differ only in what `Report.clear` legitimately leaves behind -/

/-- `w` and `w'` agree on everything a grading can read: all fields, tool data, the pool table, the class
    store up to `None`-vs-`{}` backups — and on the builtin-module table AS SOON AS the TIFA tool has been
    (lazily) reset, which is the only way to reach that table. -/
structure Sim (w w' : World) : Prop where
  fields : w.fields = w'.fields
  tools : w.tools = w'.tools
  pools : w.pools = w'.pools
  store : StoreEq w.store w'.store
  modules : (w.tools.lookup "tifa").isSome = true → w.modules = w'.modules

def SimR (r r' : StepR) : Prop := r.obs = r'.obs ∧ r.halt = r'.halt ∧ Sim r.w r'.w

theorem fresh_sim {s0 : Store} {w w' : World} (h : Fresh s0 w) (h' : Fresh s0 w') : Sim w w' := by
  refine ⟨h.fields.trans h'.fields.symm, h.tools.trans h'.tools.symm, h.pools.trans h'.pools.symm,
    ⟨h.own.trans h'.own.symm, h.mro.trans h'.mro.symm, fun c => (h.pristine.1 c).trans (h'.pristine.1 c).symm,
     h.pristine.2.trans h'.pristine.2.symm⟩, fun ht => ?_⟩
  rw [h.tools] at ht
  cases ht

theorem sim_fields {w w' : World} (h : Sim w w') (g : Fields → Fields) :
    Sim { w with fields := g w.fields } { w' with fields := g w'.fields } :=
  ⟨congrArg g h.fields, h.tools, h.pools, h.store, h.modules⟩

theorem callMethod_sim {T : Tables} (F : TableFacts T) {w w' : World} (h : Sim w w') (m tok : String) :
    SimR (callMethod T w m tok) (callMethod T w' m tok) := by
  obtain ⟨fs, _, _, e⟩ := callMethod_eq F m tok
  rw [e, e]
  exact ⟨rfl, rfl, sim_fields h (dirtyAll · fs tok)⟩

theorem lookup_map_isSome {α β} [BEq α] (f : α × β → α × β) (hf : ∀ p, (f p).1 = p.1) (l : List (α × β)) (k : α) :
    ((l.map f).lookup k).isSome = (l.lookup k).isSome := by
  induction l with
  | nil => rfl
  | cons p rest ih =>
    rw [List.map_cons, List.lookup_cons, List.lookup_cons, hf]
    cases k == p.1
    · exact ih
    · rfl

theorem lookup_touchTool_isSome (tools : List (String × List String)) (t tok k : String) :
    ((touchTool tools t tok).lookup k).isSome = (tools.lookup k).isSome :=
  lookup_map_isSome _ (fun p => by split <;> rfl) tools k

theorem ensureTool_has {T : Tables} (F : TableFacts T) (w : World) (t : String) :
    ((ensureTool T w t).tools.lookup t).isSome = true := by
  unfold ensureTool
  split
  · assumption
  · simp [F.lazy, List.lookup_append]

theorem ensureTool_sim {T : Tables} (F : TableFacts T) {w w' : World} (h : Sim w w') (t : String) :
    Sim (ensureTool T w t) (ensureTool T w' t) := by
  unfold ensureTool
  rw [← h.tools]
  split
  · exact h
  · simp only [F.lazy, ↓reduceIte, F.rebuilds, Bool.and_true]
    refine ⟨h.fields, rfl, h.pools, h.store, fun hl => ?_⟩
    by_cases ht : t = "tifa"
    · simp [ht]
    · have hne : ("tifa" == t) = false := by simpa using Ne.symm ht
      simp only [List.lookup_append, List.lookup, hne, Option.or_none] at hl
      simp [ht, h.modules hl]

theorem step_sim {T : Tables} {s0 : Store} (F : TableFacts T) {w w' : World}
    (hw : Inv T s0 w) (hw' : Inv T s0 w') (h : Sim w w') (op : Op) :
    SimR (step T w op) (step T w' op) := by
  have hl : w.store.lookup = w'.store.lookup := funext fun c => funext (h.store.lookup c)
  cases op with
  | call m tok => exact callMethod_sim F h m tok
  | poke f tok => exact ⟨rfl, rfl, sim_fields h (pokeField T.externalDirties · f tok)⟩
  | feedback c attrs trig tok =>
    obtain ⟨ho, hh, hs⟩ := callMethod_sim F h (if trig then "add_feedback" else "add_ignored_feedback") tok
    exact ⟨by simp only [step, ho, hl, h.fields], hh, hs⟩
  | override c fs =>
    obtain ⟨hs, he⟩ := override_eq h.store c fs
    exact ⟨rfl, congrArg (·.map (·.cls)) he, h.fields, h.tools, h.pools, hs, h.modules⟩
  | overrideForPool c pool fs =>
    simp only [step, ok, F.poolRegisters, ↓reduceIte]
    exact ⟨rfl, rfl, h.fields, h.tools, congrArg (addPool · pool fs) h.pools, register_eq h.store c, h.modules⟩
  | useTool t =>
    have h1 := ensureTool_sim F h t
    exact ⟨by simp only [step, ok, h1.tools], rfl, h1⟩
  | mutateTool t tok =>
    have h1 := ensureTool_sim F h t
    refine ⟨rfl, rfl, h1.fields, congrArg (touchTool · t tok) h1.tools, h1.pools, h1.store, fun hl => h1.modules ?_⟩
    rwa [← lookup_touchTool_isSome]
  | tifa tok =>
    have h1 := ensureTool_sim F h "tifa"
    have hm := h1.modules (ensureTool_has F w "tifa")
    exact ⟨by simp only [step, ok, h1.tools, hm], rfl, h1.fields, congrArg (touchTool · "tifa" tok) h1.tools, h1.pools,
      h1.store, fun _ => congrArg (· ++ [tok]) hm⟩
  | resolve probes =>
    obtain ⟨_, hh, hs⟩ := callMethod_sim F h "finalize_pools" "resolve"
    exact ⟨by simp only [step, snapshot, hl, h.fields, h.pools, h.store.overridden], hh,
      sim_fields hs fun fs =>
        pokeField T.externalDirties (pokeField T.externalDirties fs "result" "resolve") "resolves" "resolve"⟩
  | clearReport => exact ⟨rfl, rfl, fresh_sim (clear_fresh F hw) (clear_fresh F hw')⟩
  | crash e => exact ⟨rfl, rfl, h⟩

theorem run_sim {T : Tables} {s0 : Store} (F : TableFacts T) (ops : List Op) :
    ∀ w w' : World, Inv T s0 w → Inv T s0 w' → Sim w w' → SimR (run T w ops) (run T w' ops) := by
  induction ops with
  | nil => exact fun w w' _ _ h => ⟨rfl, rfl, h⟩
  | cons op rest ih =>
    intro w w' hw hw' h
    obtain ⟨ho, hh, hs⟩ := step_sim F hw hw' h op
    simp only [run]
    rw [← hh, ← ho]
    cases (step T w op).halt with
    | some e => exact ⟨rfl, rfl, hs⟩
    | none =>
      obtain ⟨ho2, hh2, hs2⟩ := ih _ _ (step_inv F hw op) (step_inv F hw' op) hs
      exact ⟨congrArg ((step T w op).obs ++ ·) ho2, hh2, hs2⟩

/-- From ANY two states a history can reach, the same grading observes the same things, ends the same way,
    and leaves states that are again indistinguishable. -/
theorem grade_sim {T : Tables} {s0 : Store} (F : TableFacts T) {w w' : World}
    (hw : Inv T s0 w) (hw' : Inv T s0 w') (g : Grading) : SimR (grade T w g) (grade T w' g) := by
  have f := clear_fresh F hw
  have f' := clear_fresh F hw'
  rw [grade_eq_run F, grade_eq_run F]
  exact run_sim F _ _ _ (fresh_inv T f) (fresh_inv T f') (fresh_sim f f')

end Pedal.ProcState
