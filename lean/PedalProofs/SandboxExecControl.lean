import PedalModel.SandboxExec
/-
Control layer of C04 / C05: the plan of `_execute` does not depend on the depth of the stacks it starts from
(`plan_transfer`), as long as the plan from empty stacks never pops an empty stack.

`plan` is put together from pieces of one shape (stack depths at entry and steps emitted so far ↦ steps emitted
afterwards and the exception in flight).  `DepthBlind` says of such a piece what `plan_transfer` says of the whole;
it holds of the two pops by a look at the depths, and is handed up through every way `plan` combines its pieces.
-/
namespace Pedal.SandboxExec

/-- Both stacks empty at entry. -/
def base0 : Base := { p0 := 0, o0 := 0 }

theorem depthPs_emit (b : Base) (c : Ctl) (q : Prim) : depthPs b (emit c q) = depthP q (depthPs b c) := by
  simp [depthPs, emit, List.foldl_append]

theorem depthOs_emit (b : Base) (c : Ctl) (q : Prim) : depthOs b (emit c q) = depthO q (depthOs b c) := by
  simp [depthOs, emit, List.foldl_append]

theorem depthP_add (q : Prim) (n k : Nat) (h : q = .stopPatches → n ≠ 0) : depthP q (n + k) = depthP q n + k := by
  unfold depthP
  split
  · exact Nat.add_right_comm n k 1
  · exact Nat.sub_add_comm (Nat.pos_of_ne_zero (h rfl))
  · rfl

theorem depthO_add (q : Prim) (n k : Nat) (h : q = .popStdout → n ≠ 0) : depthO q (n + k) = depthO q n + k := by
  unfold depthO
  split
  · exact Nat.add_right_comm n k 1
  · exact Nat.sub_add_comm (Nat.pos_of_ne_zero (h rfl))
  · rfl

/-- No pop of an empty stack so far. -/
def NoHit (c : Ctl) : Prop := Prim.hitEmpty ∉ c

theorem noHit_of_emit {c : Ctl} {q : Prim} (h : NoHit (emit c q)) : NoHit c :=
  fun hm => h (by simp [emit, hm])

theorem not_noHit_emit_hit (c : Ctl) : ¬ NoHit (emit c .hitEmpty) :=
  fun h => h (by simp [emit])

/-- The depths seen from base `b` are those seen from empty stacks, shifted. -/
def Shift (b : Base) (c : Ctl) : Prop :=
  depthPs b c = depthPs base0 c + b.p0 ∧ depthOs b c = depthOs base0 c + b.o0

theorem shift_nil (b : Base) : Shift b [] := ⟨(Nat.zero_add _).symm, (Nat.zero_add _).symm⟩

theorem shift_emit {b : Base} {c : Ctl} (h : Shift b c) (q : Prim)
    (hp : q = .stopPatches → depthPs base0 c ≠ 0) (ho : q = .popStdout → depthOs base0 c ≠ 0) :
    Shift b (emit c q) := by
  unfold Shift
  rw [depthPs_emit, depthPs_emit, depthOs_emit, depthOs_emit, h.1, h.2]
  exact ⟨depthP_add q _ _ hp, depthO_add q _ _ ho⟩

/-- A piece of `_execute` as the control layer runs it: from the stack depths at entry and the steps emitted so
    far to the steps emitted afterwards and the exception in flight.  It is blind to the depth when it (1) only
    ever appends, so that a pop of an empty stack stays on record, and (2) does from any depth what it does from
    empty stacks, as long as the latter never pops an empty stack. -/
def DepthBlind (F : Base → Ctl → Ctl × Option Who) : Prop :=
  ∀ b c, NoHit (F base0 c).1 → NoHit c ∧ (Shift b c → F b c = F base0 c ∧ Shift b (F base0 c).1)

/-- Go on with `k` unless an exception is in flight: how `stepPrims`, `stepActs` and `plan` string their steps
    together. -/
def andThen (r : Ctl × Option Who) (k : Ctl → Ctl × Option Who) : Ctl × Option Who :=
  match r with
  | (c, none) => k c
  | r => r

section
variable {F : Base → Ctl → Ctl × Option Who} (hF : DepthBlind F)
include hF

/-- Sequencing, where what comes next may depend on the exception in flight. -/
theorem DepthBlind.bind {G : Option Who → Base → Ctl → Ctl × Option Who} (hG : ∀ o, DepthBlind (G o)) :
    DepthBlind fun b c => G (F b c).2 b (F b c).1 := by
  intro b c hn
  obtain ⟨hn1, hG'⟩ := hG _ b _ hn
  obtain ⟨hn0, hF'⟩ := hF b c hn1
  refine ⟨hn0, fun hs => ?_⟩
  obtain ⟨e, hs1⟩ := hF' hs
  simp only [e]
  exact hG' hs1

theorem DepthBlind.map (Φ : Ctl × Option Who → Ctl × Option Who) (hΦ : ∀ r, (Φ r).1 = r.1) :
    DepthBlind fun b c => Φ (F b c) := by
  intro b c hn
  simp only [hΦ] at hn ⊢
  obtain ⟨hn0, hF'⟩ := hF b c hn
  exact ⟨hn0, fun hs => ⟨congrArg Φ (hF' hs).1, (hF' hs).2⟩⟩

end

theorem DepthBlind.pure (o : Option Who) : DepthBlind fun _ c => (c, o) :=
  fun _ _ hn => ⟨hn, fun hs => ⟨rfl, hs⟩⟩

theorem andThen_eq (r : Ctl × Option Who) (k : Ctl → Ctl × Option Who) :
    andThen r k = match r.2 with | none => k r.1 | some w => (r.1, some w) := by
  rcases r with ⟨c, _ | w⟩ <;> rfl

theorem DepthBlind.seq {F G : Base → Ctl → Ctl × Option Who} (hF : DepthBlind F) (hG : DepthBlind G) :
    DepthBlind fun b c => andThen (F b c) (G b) := by
  have h := hF.bind (G := fun o b c => match o with | none => G b c | some w => (c, some w))
    fun | none => hG | some _ => .pure _
  simp only [andThen_eq]
  exact h

/-- A step that is not a pop. -/
theorem DepthBlind.step (q : Prim) (o : Option Who) (hp : q ≠ .stopPatches) (ho : q ≠ .popStdout) :
    DepthBlind fun _ c => (emit c q, o) :=
  fun _ _ hn => ⟨noHit_of_emit hn, fun hs => ⟨rfl, shift_emit hs q (absurd · hp) (absurd · ho)⟩⟩

/-- A pop of the stack whose depth is `d`: from empty stacks it leaves the marker when it finds the stack empty,
    and otherwise the stack is not empty from any other depth either. -/
theorem DepthBlind.pop (q : Prim) (d : Base → Ctl → Nat) (raises : Bool)
    (hd : ∀ {b c}, Shift b c → d base0 c ≠ 0 → d b c ≠ 0 ∧ Shift b (emit c q)) :
    DepthBlind fun b c =>
      if d b c = 0 then
        (if raises = true then (emit c .hitEmpty, some .internal) else (emit (emit c .hitEmpty) q, none))
      else (emit c q, none) := by
  intro b c hn
  by_cases h0 : d base0 c = 0
  · simp only [h0, if_true] at hn
    split at hn
    · exact absurd hn (not_noHit_emit_hit c)
    · exact absurd (noHit_of_emit hn) (not_noHit_emit_hit c)
  · simp only [h0, if_false] at hn ⊢
    refine ⟨noHit_of_emit hn, fun hs => ?_⟩
    simp only [(hd hs h0).1, if_false]
    exact ⟨trivial, (hd hs h0).2⟩

section
variable (m : MockProbe) (sig : Sig) (d : ExecuteDef)

theorem stepPrim_depthBlind (q : Prim) : DepthBlind (stepPrim m · · q) := by
  unfold stepPrim
  split
  · exact .pop _ depthOs _ fun hs h0 => ⟨by rw [hs.2]; omega, shift_emit hs _ nofun (fun _ => h0)⟩
  · exact .pop _ depthPs _ fun hs h0 => ⟨by rw [hs.1]; omega, shift_emit hs _ (fun _ => h0) nofun⟩
  · rename_i ho hp
    exact .step q none hp ho

theorem stepPrims_depthBlind (qs : List Prim) : DepthBlind (stepPrims m · · qs) := by
  induction qs with
  | nil => exact .pure none
  | cons q qs ih => exact (stepPrim_depthBlind m q).seq ih

theorem stepAct_depthBlind (cur : Option Who) (a : Act) : DepthBlind (stepAct m · sig cur · a) := by
  cases a
  case startMocking | stopMocking => exact stepPrims_depthBlind m _
  case stopPatches => exact stepPrim_depthBlind m _
  case pure => exact .pure none
  case compile =>
    simp only [stepAct]
    split <;> exact .pure _
  case reraise => cases cur <;> exact .pure _
  case exec | tracedExec =>
    simp only [stepAct]
    split <;> exact .step _ _ nofun nofun
  case capture =>
    cases cur
    · exact .step _ _ nofun nofun
    · simp only [stepAct]
      split <;> exact .step _ _ nofun nofun
  all_goals exact .step _ none nofun nofun

theorem stepActs_depthBlind (cur : Option Who) (as : List Act) : DepthBlind (stepActs m · sig cur · as) := by
  induction as with
  | nil => exact .pure none
  | cons a as ih => exact (stepAct_depthBlind m sig cur a).seq ih

/-- What `planTry` does once the body of the `try` has ended with `o` in flight: `else:` or the matching handler. -/
def tryRest (o : Option Who) (b : Base) (c : Ctl) : Ctl × Option Who :=
  match o with
  | none => stepActs m b sig none c d.orelse
  | some w =>
    match d.handlers.find? (fun h => catches sig h.catches w) with
    | none => (c, some w)
    | some h => stepActs m b sig (some w) c h.body

theorem tryRest_depthBlind (o : Option Who) : DepthBlind (tryRest m sig d o) := by
  unfold tryRest
  split
  · exact stepActs_depthBlind m sig _ _
  · split
    · exact .pure _
    · exact stepActs_depthBlind m sig _ _

/-- `finally:` has run and ended as `r`; `o` was in flight before it. -/
def finish (o : Option Who) (r : Ctl × Option Who) : Ctl × Option Who :=
  match r.2 with
  | some w => (r.1, some w)
  | none => (r.1, o)

/-- `planTry` unfolds to: the body, then `tryRest`, then `finally:` and `finish`. -/
theorem planTry_depthBlind : DepthBlind (planTry m · sig d ·) :=
  ((stepActs_depthBlind m sig none d.body).bind (tryRest_depthBlind m sig d)).bind fun o =>
    (stepActs_depthBlind m sig none d.final).map (finish o) fun r => by unfold finish; split <;> rfl

def outcomeOf : Ctl × Option Who → Ctl × Outcome
  | (c, some w) => (c, .propagated w)
  | (c, none) => (c, .returned)

theorem plan_eq (b : Base) :
    plan m b sig d = outcomeOf (andThen (andThen (stepActs m b sig none [] d.pre) (planTry m b sig d))
      (stepActs m b sig none · d.post)) := by
  unfold plan
  rcases stepActs m b sig none [] d.pre with ⟨c1, _ | w⟩
  · simp only [andThen]
    rcases planTry m b sig d c1 with ⟨c2, _ | w⟩
    · simp only []
      rcases stepActs m b sig none c2 d.post with ⟨c3, _ | w⟩ <;> rfl
    · rfl
  · rfl

/-- The plan of `_execute` started at any depth of the stacks is the plan started with empty stacks, provided
    that one never pops an empty stack. -/
theorem plan_transfer (b : Base) (hn : NoHit (plan m base0 sig d).1) : plan m b sig d = plan m base0 sig d := by
  have e : ∀ r, (outcomeOf r).1 = r.1 := fun r => by rcases r with ⟨c, _ | w⟩ <;> rfl
  rw [plan_eq, e] at hn
  have h := ((stepActs_depthBlind m sig none d.pre).seq (planTry_depthBlind m sig d)).seq
    (stepActs_depthBlind m sig none d.post) b [] hn
  rw [plan_eq, plan_eq]
  exact congrArg outcomeOf (h.2 (shift_nil b)).1

end

end Pedal.SandboxExec
