import PedalModel.SandboxEquiv
/-
Lemmas for C06 about the namespace operations, `_make_temporary`/`_construct_call`, `_purge_temporaries` and
`_start_mocking` as modelled in PedalModel/SandboxEquiv.lean.
-/
namespace Pedal.SandboxEquiv

/-! ## association-list namespace -/

theorem get?_cons (ns : NS) (a k : Key) (b : Nat) :
    NS.get? ((a, b) :: ns) k = if k = a then some b else NS.get? ns k := by
  rw [NS.get?, List.lookup_cons]
  split <;> simp_all [NS.get?]

theorem erase_cons (ns : NS) (a k : Key) (b : Nat) :
    NS.erase ((a, b) :: ns) k = if a = k then NS.erase ns k else (a, b) :: NS.erase ns k := by
  simp only [NS.erase, List.filter_cons, bne_iff_ne, ne_eq, ite_not]

theorem get?_erase (ns : NS) (k k' : Key) :
    NS.get? (NS.erase ns k) k' = if k' = k then none else NS.get? ns k' := by
  induction ns with
  | nil => split <;> rfl
  | cons e ns ih =>
    obtain ⟨a, b⟩ := e
    rw [erase_cons, get?_cons]
    by_cases ha : a = k
    · rw [if_pos ha, ih, ha]
      split <;> rfl
    · rw [if_neg ha, get?_cons, ih]
      by_cases hk : k' = a
      · rw [if_pos hk, if_pos hk, if_neg (hk ▸ ha)]
      · rw [if_neg hk, if_neg hk]

theorem get?_erase_self (ns : NS) (k : Key) : NS.get? (NS.erase ns k) k = none := by
  rw [get?_erase, if_pos rfl]

theorem get?_erase_ne (ns : NS) (k k' : Key) (h : k' ≠ k) : NS.get? (NS.erase ns k) k' = NS.get? ns k' := by
  rw [get?_erase, if_neg h]

theorem get?_set (ns : NS) (k k' : Key) (v : Nat) :
    NS.get? (NS.set ns k v) k' = if k' = k then some v else NS.get? ns k' := by
  rw [NS.set, get?_cons, get?_erase]
  split <;> rfl

theorem get?_set_self (ns : NS) (k : Key) (v : Nat) : NS.get? (NS.set ns k v) k = some v := by
  rw [get?_set, if_pos rfl]

theorem get?_set_ne (ns : NS) (k k' : Key) (v : Nat) (h : k' ≠ k) : NS.get? (NS.set ns k v) k' = NS.get? ns k' := by
  rw [get?_set, if_neg h]

/-! ## temporaries -/

def Key.isTemp : Key → Bool
  | .temp .. => true
  | .name _ => false

theorem Key.ne_name_of_isTemp {k : Key} (h : k.isTemp = true) (t : String) : k ≠ .name t := by
  rintro rfl
  cases h

/-- Between two executions: no temporaries pending; what is remembered as shadowed is what the namespace holds. -/
structure Inv (st : St) : Prop where
  temps_nil : st.temps = []
  backups_ok : ∀ k v, NS.get? st.backups k = some v → k.isTemp = true ∧ NS.get? st.data k = some v

/-- A key the namespace lacks has nothing remembered, so `tmpBackups` of a fresh key remembers exactly what the
key holds. -/
theorem Inv.data_or_backups {st : St} (h : Inv st) (k : Key) :
    (NS.get? st.data k).or (NS.get? st.backups k) = NS.get? st.data k := by
  cases hb : NS.get? st.backups k with
  | none => exact Option.or_none
  | some v => rw [(h.backups_ok k v hb).2]; rfl

/-- While `_construct_call` runs (from `st0`). -/
structure Mid (st0 st : St) : Prop where
  temps_temp : ∀ k, k ∈ st.temps → k.isTemp = true
  data_frame : ∀ k, k ∉ st.temps → NS.get? st.data k = NS.get? st0.data k
  backup_of : ∀ k, k ∈ st.temps → NS.get? st.backups k = NS.get? st0.data k
  backup_frame : ∀ k, k ∉ st.temps → NS.get? st.backups k = NS.get? st0.backups k

theorem mid_refl (st0 : St) (h : Inv st0) : Mid st0 st0 := by
  refine ⟨?_, fun _ _ => rfl, ?_, fun _ _ => rfl⟩ <;> intro k hk <;> rw [h.temps_nil] at hk <;> cases hk

theorem makeTemporary_var (cfg : CallCfg) (st : St) (key : Key) (a : Arg) (n : String) (hv : a.varName = some n) :
    makeTemporary cfg st key a = (.var n, st) := by
  simp [makeTemporary, hv]

theorem makeTemporary_lit (cfg : CallCfg) (st : St) (key : Key) (a : Arg) (hv : a.varName = none)
    (hl : usesLiteral cfg a = true) : makeTemporary cfg st key a = (.lit a.reprText, st) := by
  simp [makeTemporary, hv, hl]

theorem makeTemporary_tmp (cfg : CallCfg) (st : St) (key : Key) (a : Arg) (hv : a.varName = none)
    (hl : usesLiteral cfg a = false) :
    makeTemporary cfg st key a =
      (.tmp key, { data := NS.set st.data key a.val,
                   temps := if st.temps.contains key then st.temps else key :: st.temps,
                   backups := tmpBackups cfg st key }) := by
  simp [makeTemporary, hv, hl]

theorem makeTemporary_cases (cfg : CallCfg) (st : St) (key : Key) (a : Arg) :
    (∃ n, a.varName = some n ∧ makeTemporary cfg st key a = (.var n, st)) ∨
    (a.varName = none ∧ usesLiteral cfg a = true ∧ makeTemporary cfg st key a = (.lit a.reprText, st)) ∨
    (a.varName = none ∧ usesLiteral cfg a = false ∧ makeTemporary cfg st key a =
      (.tmp key, { data := NS.set st.data key a.val,
                   temps := if st.temps.contains key then st.temps else key :: st.temps,
                   backups := tmpBackups cfg st key })) := by
  cases hv : a.varName with
  | some n => exact Or.inl ⟨n, rfl, makeTemporary_var cfg st key a n hv⟩
  | none =>
    cases hl : usesLiteral cfg a with
    | true => exact Or.inr (Or.inl ⟨rfl, rfl, makeTemporary_lit cfg st key a hv hl⟩)
    | false => exact Or.inr (Or.inr ⟨rfl, rfl, makeTemporary_tmp cfg st key a hv hl⟩)

theorem makeTemporary_temps (cfg : CallCfg) (st : St) (key : Key) (a : Arg) :
    ∀ k, k ∈ (makeTemporary cfg st key a).2.temps → k = key ∨ k ∈ st.temps := by
  intro k hk
  rcases makeTemporary_cases cfg st key a with ⟨n, _, h⟩ | ⟨_, _, h⟩ | ⟨_, _, h⟩ <;> rw [h] at hk
  · exact Or.inr hk
  · exact Or.inr hk
  · simp only at hk
    split at hk
    · exact Or.inr hk
    · exact List.mem_cons.mp hk

theorem makeTemporary_data_frame (cfg : CallCfg) (st : St) (key : Key) (a : Arg) (k : Key) (h : k ≠ key) :
    NS.get? (makeTemporary cfg st key a).2.data k = NS.get? st.data k := by
  rcases makeTemporary_cases cfg st key a with ⟨n, _, h'⟩ | ⟨_, _, h'⟩ | ⟨_, _, h'⟩ <;> rw [h']
  exact get?_set_ne _ _ _ _ h

theorem tmpBackups_get? (cfg : CallCfg) (hb : cfg.backsUp = true) (st : St) (key k : Key) :
    NS.get? (tmpBackups cfg st key) k =
      if k = key then (NS.get? st.data key).or (NS.get? st.backups key) else NS.get? st.backups k := by
  unfold tmpBackups
  cases NS.get? st.data key with
  | some old => simp only [hb, if_true, get?_set, Option.some_or]
  | none => simp only [Option.none_or]; split <;> simp [*]

theorem makeTemporary_mid (cfg : CallCfg) (st0 st : St) (key : Key) (a : Arg) (hinv : Inv st0)
    (hb : cfg.backsUp = true) (hm : Mid st0 st) (hk : key.isTemp = true) (hfresh : key ∉ st.temps) :
    Mid st0 (makeTemporary cfg st key a).2 := by
  rcases makeTemporary_cases cfg st key a with ⟨n, _, h⟩ | ⟨_, _, h⟩ | ⟨_, _, h⟩ <;> rw [h]
  · exact hm
  · exact hm
  · have hc : st.temps.contains key = false := by simpa using hfresh
    simp only [hc, Bool.false_eq_true, if_false]
    refine ⟨?_, ?_, ?_, ?_⟩ <;> intro k <;> simp only [List.mem_cons, not_or, tmpBackups_get? cfg hb]
    · rintro (rfl | h')
      · exact hk
      · exact hm.temps_temp k h'
    · intro h'
      rw [get?_set_ne _ _ _ _ h'.1]
      exact hm.data_frame k h'.2
    · intro h'
      split
      · -- the key itself: fresh, so both namespaces still hold for it what they held at the start
        subst k
        rw [hm.data_frame _ hfresh, hm.backup_frame _ hfresh]
        exact hinv.data_or_backups _
      · exact hm.backup_of k (h'.resolve_left ‹_›)
    · intro h'
      rw [if_neg h'.1]
      exact hm.backup_frame k h'.2

theorem constructList_mid (cfg : CallCfg) (st0 : St) (hinv : Inv st0) (hb : cfg.backsUp = true) :
    ∀ (items : List (Key × Arg)) (st : St), Mid st0 st → (∀ k, k ∈ items.map (·.1) → k.isTemp = true) →
      (items.map (·.1)).Nodup → (∀ k, k ∈ items.map (·.1) → k ∉ st.temps) → Mid st0 (constructList cfg st items).2 := by
  intro items
  induction items with
  | nil => intro st hm _ _ _; exact hm
  | cons e rest ih =>
    intro st hm htemp hnd hfresh
    rw [List.map_cons, List.nodup_cons] at hnd
    refine ih _ (makeTemporary_mid cfg st0 st e.1 e.2 hinv hb hm (htemp _ List.mem_cons_self)
      (hfresh _ List.mem_cons_self)) (fun k hk => htemp k (List.mem_cons_of_mem _ hk)) hnd.2 ?_
    intro k hk hmem
    rcases makeTemporary_temps cfg st e.1 e.2 k hmem with h | h
    · exact hnd.1 (h ▸ hk)
    · exact hfresh k (List.mem_cons_of_mem _ hk) h

theorem constructList_data_frame (cfg : CallCfg) :
    ∀ (items : List (Key × Arg)) (st : St) (k : Key), k ∉ items.map (·.1) →
      NS.get? (constructList cfg st items).2.data k = NS.get? st.data k := by
  intro items
  induction items with
  | nil => intro st k _; rfl
  | cons e rest ih =>
    intro st k hk
    rw [List.map_cons, List.mem_cons, not_or] at hk
    exact (ih _ k hk.2).trans (makeTemporary_data_frame cfg st e.1 e.2 k hk.1)

theorem constructList_temps_temp (cfg : CallCfg) :
    ∀ (items : List (Key × Arg)) (st : St) (k : Key), k ∈ (constructList cfg st items).2.temps →
      k ∈ items.map (·.1) ∨ k ∈ st.temps := by
  intro items
  induction items with
  | nil => intro st k hk; exact Or.inr hk
  | cons e rest ih =>
    intro st k hk
    rw [List.map_cons, List.mem_cons]
    rcases ih _ k hk with h | h
    · exact Or.inl (Or.inr h)
    · exact (makeTemporary_temps cfg st e.1 e.2 k h).imp_left Or.inl

/-- What each generated argument must evaluate to. -/
def ItemSound (cfg : CallCfg) (E : Env) (data1 : NS) (a : Arg) : Prop :=
  (∀ n, a.varName = some n → NS.get? data1 (.name n) = some a.val) ∧
  (a.varName = none → usesLiteral cfg a = true → E.evalLit a.reprText = some a.val)

theorem constructList_evalRefs (cfg : CallCfg) (E : Env) (data1 : NS) :
    ∀ (items : List (Key × Arg)) (st : St), (items.map (·.1)).Nodup →
      (∀ a, a ∈ items.map (·.2) → ItemSound cfg E data1 a) →
      (∀ k, k ∈ items.map (·.1) → NS.get? data1 k = NS.get? (constructList cfg st items).2.data k) →
      evalRefs E data1 (constructList cfg st items).1 = some ((items.map (·.2)).map (·.val)) := by
  intro items
  induction items with
  | nil => intro st _ _ _; rfl
  | cons e rest ih =>
    intro st hnd hsound hagree
    obtain ⟨key, a⟩ := e
    rw [List.map_cons, List.nodup_cons] at hnd
    have hs := hsound a List.mem_cons_self
    have hhead : evalRef E data1 (makeTemporary cfg st key a).1 = some a.val := by
      -- a temporary is not written again by the rest of the arguments
      have hkey : NS.get? data1 key = NS.get? (makeTemporary cfg st key a).2.data key :=
        (hagree key List.mem_cons_self).trans (constructList_data_frame cfg rest _ key hnd.1)
      rcases makeTemporary_cases cfg st key a with ⟨n, hv, h⟩ | ⟨hv, hl, h⟩ | ⟨_, _, h⟩ <;> rw [h] at hkey ⊢
      · exact hs.1 n hv
      · exact hs.2 hv hl
      · exact hkey.trans (get?_set_self _ _ _)
    have htail := ih (makeTemporary cfg st key a).2 hnd.2 (fun a ha => hsound a (List.mem_cons_of_mem _ ha))
      (fun k hk => hagree k (List.mem_cons_of_mem _ hk))
    simp only [constructList, evalRefs, hhead, htail, List.map_cons]

/-! ## `_purge_temporaries` -/

theorem purgeOne_get? (cfg : CallCfg) (hr : cfg.purgeRestores = true) (hd : cfg.purgeDeletes = true)
    (backups data : NS) (key k : Key) :
    NS.get? (purgeOne cfg backups data key) k = if k = key then NS.get? backups key else NS.get? data k := by
  unfold purgeOne
  cases hb : NS.get? backups key with
  | some old => simp only [hr, if_true]; rw [get?_set]
  | none => simp only [hd, if_true]; rw [get?_erase]

theorem purge_fold_get? (cfg : CallCfg) (hr : cfg.purgeRestores = true) (hd : cfg.purgeDeletes = true)
    (backups : NS) (k : Key) :
    ∀ (temps : List Key) (data : NS),
      NS.get? (temps.foldl (purgeOne cfg backups) data) k = if k ∈ temps then NS.get? backups k else NS.get? data k := by
  intro temps
  induction temps with
  | nil => intro data; simp
  | cons key rest ih =>
    intro data
    rw [List.foldl_cons, ih, purgeOne_get? cfg hr hd]
    by_cases h : k = key
    · subst h; simp
    · simp [h]

/-! ## `_start_mocking` on the namespace -/

/-- The value an execution forces on a key before the student's code runs (none: the key is left alone). -/
def mockedValue (mc : MockCfg) (ov : String → Nat) : Key → Option Nat
  | .temp .. => none
  | .name s =>
    if mc.setsMainName && s == "__name__" then some mainNameId
    else if mc.writesNamespace && mc.overrideNames.contains s then some (ov s)
    else if mc.resetsBuiltins && s == "__builtins__" then some builtinsId
    else none

/-- What a key holds once an execution has been set up on a namespace in which it held `old`. -/
def afterSetup (mc : MockCfg) (ov : String → Nat) (k : Key) (old : Option Nat) : Option Nat :=
  match mockedValue mc ov k with
  | some v => some v
  | none => old

theorem afterSetup_of_none {mc : MockCfg} {ov : String → Nat} {k : Key} (h : mockedValue mc ov k = none)
    (old : Option Nat) : afterSetup mc ov k old = old := by
  rw [afterSetup, h]

theorem mockedValue_temp (mc : MockCfg) (ov : String → Nat) (k : Key) (h : k.isTemp = true) :
    mockedValue mc ov k = none := by
  cases k with
  | temp => rfl
  | name s => cases h

theorem get?_cond_set (c : Bool) (d : NS) (k k' : Key) (v : Nat) :
    NS.get? (if c then NS.set d k v else d) k' = if c && k' == k then some v else NS.get? d k' := by
  cases c <;> simp [get?_set]

theorem foldl_overrides_get? (ov : String → Nat) (names : List String) (d : NS) (k : Key) :
    NS.get? (names.foldl (fun d n => NS.set d (.name n) (ov n)) d) k =
      match k with
      | .name s => if names.contains s then some (ov s) else NS.get? d k
      | .temp .. => NS.get? d k := by
  induction names generalizing d with
  | nil => cases k <;> rfl
  | cons n rest ih =>
    rw [List.foldl_cons, ih, get?_set]
    cases k with
    | temp => simp
    | name s => by_cases h : s = n <;> simp [h]

/-- `startExecution` is three conditional writes in a row, `mockedValue` tests for the same three in the reverse
order: the last write wins. -/
theorem startExecution_get? (mc : MockCfg) (ov : String → Nat) (d : NS) (k : Key) :
    NS.get? (startExecution mc ov d) k = afterSetup mc ov k (NS.get? d k) := by
  unfold startExecution afterSetup mockedValue
  cases k with
  | temp kw i nm => cases mc.writesNamespace <;> simp [get?_cond_set, foldl_overrides_get?]
  | name s =>
    have hchain : ∀ (c₃ c₂ c₁ : Bool) (a b c : Nat) (old : Option Nat),
        (if c₃ then some a else if c₂ then some b else if c₁ then some c else old) =
          match (if c₃ then some a else if c₂ then some b else if c₁ then some c else none) with
          | some v => some v
          | none => old := by
      intro c₃ c₂ c₁; cases c₃ <;> cases c₂ <;> cases c₁ <;> intros <;> rfl
    rw [← hchain]
    cases mc.writesNamespace <;> simp [get?_cond_set, foldl_overrides_get?]

end Pedal.SandboxEquiv
