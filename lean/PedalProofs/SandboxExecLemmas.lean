import PedalProofs.SandboxExecControl
/-
Lemmas behind C04 / C05.

Strategy.  `execute` = `plan` (control, depends on the termination only through the finite `Sig`) followed by
`applyPrims` (data).  The data lemmas below hold for EVERY list of primitive steps; the property of the
generated ladder that the theorems need is then a decidable check over the 48 signatures
(`checkC05`, `checkC04`), discharged by `decide` in PedalProofs/C05.lean / C04.lean.

Executions nested in one another (`executeN`, `runN`) are the general case: the plan does not depend on what is
already on the stacks (`plan_transfer`, PedalProofs/SandboxExecControl.lean) and the steps do not touch it
(`applyPrimsN_frames`).  An execution started with empty stacks is that case with nothing nested (`executeN_id`).
-/
namespace Pedal.SandboxExec

/-! ### Data layer: folding primitive steps -/

theorem applyPrims_nil (env : Env) (s : St) : applyPrims env s [] = s := rfl

theorem applyPrims_cons (env : Env) (s : St) (q : Prim) (qs : List Prim) :
    applyPrims env s (q :: qs) = applyPrims env (applyPrim env s q) qs := rfl

theorem applyPrim_patches_length (env : Env) (s : St) (q : Prim) :
    (applyPrim env s q).patches.length = depthP q s.patches.length := by
  cases q
  case stopPatches => cases s with | mk g ps => cases ps <;> rfl
  case exec =>
    simp only [applyPrim]
    split <;> rfl
  all_goals rfl

theorem applyPrim_stdouts_length (env : Env) (s : St) (q : Prim) :
    (applyPrim env s q).stdouts.length = depthO q s.stdouts.length := by
  cases q
  case popStdout => exact List.length_tail
  case stopPatches =>
    simp only [applyPrim]
    split <;> rfl
  case exec =>
    simp only [applyPrim]
    split <;> rfl
  all_goals rfl

theorem applyPrims_patches_length (env : Env) (qs : List Prim) (s : St) :
    (applyPrims env s qs).patches.length = qs.foldl (fun n q => depthP q n) s.patches.length :=
  (List.foldl_hom (fun s : St => s.patches.length) fun s q => (applyPrim_patches_length env s q).symm).symm

theorem applyPrims_stdouts_length (env : Env) (qs : List Prim) (s : St) :
    (applyPrims env s qs).stdouts.length = qs.foldl (fun n q => depthO q n) s.stdouts.length :=
  (List.foldl_hom (fun s : St => s.stdouts.length) fun s q => (applyPrim_stdouts_length env s q).symm).symm

/-- Undo every live patch, innermost first: what the borrowed globals would be with all patches stopped. -/
def unwind (fs : List PatchFrame) (g : Globals) : Globals := fs.foldl (fun g f => f.restore g) g

theorem unwind_nil (g : Globals) : unwind [] g = g := rfl

/-- Steps that can occur in a well-formed ladder on a tree whose builtins stay private. -/
def safePrim : Prim → Bool
  | .touchBuiltins => false
  | .hitEmpty => false          -- popping a stack that is empty: not its own frame
  | .unknown => false
  | _ => true

/-- A tracer style that leaves the trace function as it found it - also, when the executed code imports another
    student file (`nested`), after being re-entered inside its own `with`. -/
def TraceOK (style : TraceStyle) (nested : Bool) : Prop := style.leaks nested = false

instance (style : TraceStyle) (nested : Bool) : Decidable (TraceOK style nested) := by unfold TraceOK; infer_instance

/-- Not importing is the easier case. -/
theorem TraceOK.and {style : TraceStyle} {nested : Bool} (h : TraceOK style nested) (b : Bool) :
    TraceOK style (nested && b) := by
  cases b
  · unfold TraceOK TraceStyle.leaks at *
    cases nested <;> simp_all
  · rwa [Bool.and_true]

theorem restore_install (m : MockProbe) (g : Globals) (a b c : Nat) :
    PatchFrame.restore
      { stdout := if m.patchesStdout then some g.stdout else none,
        sleep := if m.patchesSleep then some g.sleep else none,
        modules := if m.patchesModules then some g.modules else none }
      { g with stdout := if m.patchesStdout then a else g.stdout,
               sleep := if m.patchesSleep then b else g.sleep,
               modules := if m.patchesModules then c else g.modules } = g := by
  cases g
  cases m.patchesStdout <;> cases m.patchesSleep <;> cases m.patchesModules <;> rfl

/-- The key invariant: no primitive step changes what the globals would be once all patches are stopped. -/
theorem unwind_applyPrim (env : Env) (hr : env.probe.stopRestores = true) (ht : TraceOK env.style env.nested)
    (s : St) (q : Prim) (hq : safePrim q = true) :
    unwind (applyPrim env s q).patches (applyPrim env s q).g = unwind s.patches s.g := by
  cases q
  case touchBuiltins | hitEmpty | unknown => cases hq
  case startPatches => exact congrArg (unwind s.patches) (restore_install ..)
  case stopPatches =>
    cases s with | mk g ps => cases ps with
    | nil => rfl
    | cons f ps =>
      simp only [applyPrim, hr, if_true]
      rfl
  case exec traced =>
    have : env.style.leaks env.nested = false := ht
    simp only [applyPrim, this, Bool.and_false]
    rfl
  all_goals rfl

theorem unwind_applyPrims (env : Env) (hr : env.probe.stopRestores = true) (ht : TraceOK env.style env.nested)
    (qs : List Prim) (s : St) (hq : qs.all safePrim = true) :
    unwind (applyPrims env s qs).patches (applyPrims env s qs).g = unwind s.patches s.g :=
  List.foldlRecOn qs (applyPrim env) (motive := fun s' => unwind s'.patches s'.g = unwind s.patches s.g) rfl
    fun s' h q hm => (unwind_applyPrim env hr ht s' q (List.all_eq_true.mp hq q hm)).trans h

/-! ### Data layer: an execution touches only what it pushed itself -/

/-- What the executions nested in another one do to the sandbox leaves both stacks and the borrowed globals as
    they found them (the statement of C05 for an execution that starts in the middle of another one). -/
def Framed (inner : St → St) : Prop :=
  ∀ s, (inner s).patches = s.patches ∧ (inner s).stdouts = s.stdouts ∧ (inner s).g = s.g

theorem framed_id : Framed id := fun _ => ⟨rfl, rfl, rfl⟩

theorem Framed.comp {f g : St → St} (hf : Framed f) (hg : Framed g) : Framed fun s => g (f s) := fun s =>
  ⟨(hg _).1.trans (hf s).1, (hg _).2.1.trans (hf s).2.1, (hg _).2.2.trans (hf s).2.2⟩

/-- Started with empty stacks, this is the statement of C05. -/
theorem Framed.restores {f : St → St} (hf : Framed f) {s : St} (hs : s.Inv) : (f s).Inv ∧ (f s).g = s.g :=
  ⟨⟨(hf s).1.trans hs.1, (hf s).2.1.trans hs.2⟩, (hf s).2.2⟩

/-- Starting `n` frames above the part of the patch stack that is not ours, never stop a patch frame that is
    not ours. -/
def strictP : List Prim → Nat → Bool
  | [], _ => true
  | q :: qs, n => (q != .stopPatches || n != 0) && strictP qs (depthP q n)

def strictO : List Prim → Nat → Bool
  | [], _ => true
  | q :: qs, n => (q != .popStdout || n != 0) && strictO qs (depthO q n)

theorem applyPrimsN_cons (env : Env) (inner : St → St) (s : St) (q : Prim) (qs : List Prim) :
    applyPrimsN env inner s (q :: qs) = applyPrimsN env inner (applyPrimN env inner s q) qs := rfl

/-- `s` with `rp` / `ro` lying underneath its patch / stdout stack. -/
def St.over (s : St) (rp : List PatchFrame) (ro : List Nat) : St :=
  { s with patches := s.patches ++ rp, stdouts := s.stdouts ++ ro }

/-- Frame rule: a step that does not pop a stack which is empty never looks at what lies underneath. -/
theorem applyPrim_over (env : Env) (s : St) (rp : List PatchFrame) (ro : List Nat) (q : Prim)
    (hp : q = .stopPatches → s.patches ≠ []) (ho : q = .popStdout → s.stdouts ≠ []) :
    applyPrim env (s.over rp ro) q = (applyPrim env s q).over rp ro := by
  cases q
  case popStdout =>
    cases s with | mk g ps os => cases os with
    | nil => exact absurd rfl (ho rfl)
    | cons => rfl
  case stopPatches =>
    cases s with | mk g ps => cases ps with
    | nil => exact absurd rfl (hp rfl)
    | cons => rfl
  case exec =>
    simp only [applyPrim]
    split <;> rfl
  all_goals rfl

/-- `cur` is a state with `np` patch frames and `no` stdouts of its own, lying over `rp` / `ro`; with its own
    patches stopped the borrowed globals would be `g0`. -/
def Above (rp : List PatchFrame) (ro : List Nat) (g0 : Globals) (np no : Nat) (cur : St) : Prop :=
  ∃ s : St, cur = s.over rp ro ∧ s.patches.length = np ∧ s.stdouts.length = no ∧ unwind s.patches s.g = g0

section
variable {env : Env} {inner : St → St} (hin : Framed inner) {rp : List PatchFrame} {ro : List Nat} {g0 : Globals}
  {np no : Nat} {cur : St} (h : Above rp ro g0 np no cur)
include h

include hin in
theorem Above.framed : Above rp ro g0 np no (inner cur) := by
  obtain ⟨s, rfl, hp, ho, hu⟩ := h
  obtain ⟨h1, h2, h3⟩ := hin (s.over rp ro)
  refine ⟨{ inner (s.over rp ro) with patches := s.patches, stdouts := s.stdouts }, ?_, hp, ho, h3 ▸ hu⟩
  cases hi : inner (s.over rp ro)
  rw [hi] at h1 h2
  simp only at h1 h2
  simp only [St.over, h1, h2]

variable (hr : env.probe.stopRestores = true) (ht : TraceOK env.style env.nested)
include hr ht

/-- The bookkeeping lemmas of `applyPrim` hold for the part of the state that is the execution's own. -/
theorem Above.applyPrim {q : Prim} (hq : safePrim q = true) (hp : q = .stopPatches → np ≠ 0)
    (ho : q = .popStdout → no ≠ 0) : Above rp ro g0 (depthP q np) (depthO q no) (applyPrim env cur q) := by
  obtain ⟨s, rfl, rfl, rfl, rfl⟩ := h
  exact ⟨SandboxExec.applyPrim env s q,
    applyPrim_over env s rp ro q (fun e h => hp e (congrArg List.length h)) (fun e h => ho e (congrArg List.length h)),
    applyPrim_patches_length .., applyPrim_stdouts_length .., unwind_applyPrim env hr ht s q hq⟩

include hin

theorem Above.applyPrimN {q : Prim} (hq : safePrim q = true) (hp : q = .stopPatches → np ≠ 0)
    (ho : q = .popStdout → no ≠ 0) : Above rp ro g0 (depthP q np) (depthO q no) (applyPrimN env inner cur q) := by
  cases q
  case exec => exact (h.framed hin).applyPrim hr ht hq hp ho
  all_goals exact h.applyPrim hr ht hq hp ho

theorem Above.applyPrimsN (qs : List Prim) (hq : qs.all safePrim = true) (hp : strictP qs np = true)
    (ho : strictO qs no = true) :
    Above rp ro g0 (qs.foldl (fun n q => depthP q n) np) (qs.foldl (fun n q => depthO q n) no)
      (applyPrimsN env inner cur qs) := by
  induction qs generalizing np no cur with
  | nil => exact h
  | cons q qs ih =>
    simp only [List.all_cons, strictP, strictO, Bool.and_eq_true, Bool.or_eq_true, bne_iff_ne, ne_eq] at hq hp ho
    exact ih (h.applyPrimN hin hr ht hq.1 (fun e => hp.1.resolve_left (not_not_intro e))
      (fun e => ho.1.resolve_left (not_not_intro e))) hq.2 hp.2 ho.2

end

/-- A balanced, strict, safe list of steps - with framed nested executions - leaves both stacks and the borrowed
    globals exactly as they were, WHATEVER was on the stacks. -/
theorem applyPrimsN_frames (env : Env) (hr : env.probe.stopRestores = true) (ht : TraceOK env.style env.nested)
    (inner : St → St) (hin : Framed inner) (qs : List Prim) (hq : qs.all safePrim = true)
    (hsp : strictP qs 0 = true) (hso : strictO qs 0 = true)
    (hbp : qs.foldl (fun n q => depthP q n) 0 = 0) (hbo : qs.foldl (fun n q => depthO q n) 0 = 0) (s : St) :
    (applyPrimsN env inner s qs).patches = s.patches ∧ (applyPrimsN env inner s qs).stdouts = s.stdouts ∧
      (applyPrimsN env inner s qs).g = s.g := by
  have h0 : Above s.patches s.stdouts s.g 0 0 s := ⟨{ s with patches := [], stdouts := [] }, rfl, rfl, rfl, rfl⟩
  obtain ⟨s', e, hp, ho, hu⟩ := h0.applyPrimsN hin hr ht qs hq hsp hso
  rw [hbp] at hp
  rw [hbo] at ho
  rw [e, ← hu, List.eq_nil_of_length_eq_zero hp]
  simp only [St.over, List.eq_nil_of_length_eq_zero hp, List.eq_nil_of_length_eq_zero ho]
  exact ⟨rfl, rfl, rfl⟩

/-! ### Data layer: what an execution records -/

/-- The exceptions recorded successfully, in order. -/
def captures : List Prim → List Who
  | [] => []
  | .captureOk w :: qs => w :: captures qs
  | _ :: qs => captures qs

theorem applyPrim_feedbacks (env : Env) (s : St) (q : Prim) :
    (applyPrim env s q).feedbacks = s.feedbacks ++ (captures [q]).map env.mkFb := by
  cases q
  case captureOk => rfl
  case stopPatches =>
    simp only [applyPrim]
    split <;> exact (List.append_nil _).symm
  case exec =>
    simp only [applyPrim]
    split <;> exact (List.append_nil _).symm
  all_goals exact (List.append_nil _).symm

theorem captures_cons (q : Prim) (qs : List Prim) : captures (q :: qs) = captures [q] ++ captures qs := by
  cases q <;> rfl

theorem applyPrims_feedbacks (env : Env) (qs : List Prim) (s : St) :
    (applyPrims env s qs).feedbacks = s.feedbacks ++ (captures qs).map env.mkFb := by
  induction qs generalizing s with
  | nil => exact (List.append_nil _).symm
  | cons q qs ih =>
    rw [applyPrims_cons, ih, applyPrim_feedbacks, captures_cons q qs, List.map_append, List.append_assoc]

/-- Last write to `sandbox.exception`: `none` = untouched, `some none` = cleared, `some (some w)` = set. -/
def slotStep (acc : Option (Option Who)) : Prim → Option (Option Who)
  | .clearException => some none
  | .captureOk w => some (some w)
  | .captureFail w => some (some w)
  | _ => acc

def slot (qs : List Prim) : Option (Option Who) := qs.foldl slotStep none

def slotValue (env : Env) (init : Option String) : Option (Option Who) → Option String
  | none => init
  | some none => none
  | some (some w) => some (env.reported w)

theorem applyPrim_exception (env : Env) (init : Option String) (acc : Option (Option Who)) (s : St) (q : Prim)
    (h : s.exception = slotValue env init acc) :
    (applyPrim env s q).exception = slotValue env init (slotStep acc q) := by
  cases q
  case clearException | captureOk | captureFail => rfl
  case stopPatches =>
    simp only [applyPrim]
    split <;> exact h
  case exec =>
    simp only [applyPrim]
    split <;> exact h
  all_goals exact h

theorem applyPrims_exception (env : Env) (qs : List Prim) (s : St) :
    (applyPrims env s qs).exception = slotValue env s.exception (slot qs) :=
  List.foldl_rel (r := fun s' acc => s'.exception = slotValue env s.exception acc) rfl
    fun q _ s' acc h => applyPrim_exception env _ acc s' q h

/-! ### The finite signature space -/

def allKinds : List Kind := [.normal, .raised, .compileFailed]
def allBools : List Bool := [false, true]

def allSigs : List Sig :=
  allKinds.flatMap fun k => allBools.flatMap fun a => allBools.flatMap fun b => allBools.flatMap fun c =>
    allBools.map fun d => { kind := k, isException := a, isSystemExit := b, captureFails := c, injected := d }

theorem mem_allSigs (sig : Sig) : sig ∈ allSigs := by
  have hk : ∀ k : Kind, k ∈ allKinds := fun k => by cases k <;> decide
  have hb : ∀ b : Bool, b ∈ allBools := fun b => by cases b <;> decide
  obtain ⟨k, a, b, c, d⟩ := sig
  simp only [allSigs, List.mem_flatMap, List.mem_map]
  exact ⟨k, hk k, a, hb a, b, hb b, c, hb c, d, hb d, rfl⟩

theorem forall_sig_of_all {P : Sig → Bool} (h : allSigs.all P = true) (sig : Sig) : P sig = true :=
  List.all_eq_true.mp h sig (mem_allSigs sig)

/-! ### Decidable checks on a ladder -/

/-- C05 for one signature: from empty stacks, the ladder ends with empty stacks, only ever performs
    steps the invariant lemma covers (in particular it never pops a stack that is empty), and never goes below
    the depth it started at - whether it returns or propagates. -/
def checkC05 (m : MockProbe) (d : ExecuteDef) (sig : Sig) : Bool :=
  let r := plan m base0 sig d
  depthPs base0 r.1 == 0 && depthOs base0 r.1 == 0 && r.1.all safePrim && strictP r.1 0 && strictO r.1 0

/-- The signatures C04 speaks about: an Exception or SystemExit whose recording does not fail. -/
def Sig.contained (sig : Sig) : Bool :=
  (sig.isException || sig.isSystemExit) && !sig.captureFails && !sig.injected

/-- C04 for one signature: the call returns; a failure is recorded exactly once, as the student's exception,
    and that is what `sandbox.exception` ends up holding; a normal run records nothing and clears the slot. -/
def checkC04 (m : MockProbe) (d : ExecuteDef) (sig : Sig) : Bool :=
  let r := plan m base0 sig d
  match sig.kind with
  | .normal => r.2 == .returned && captures r.1 == [] && slot r.1 == some none
  | _ => !sig.contained ||
      (r.2 == .returned && captures r.1 == [.student] && slot r.1 == some (some .student))

theorem checkC04_failing {m : MockProbe} {d : ExecuteDef} {sig : Sig} (h : checkC04 m d sig = true)
    (hk : sig.kind ≠ .normal) (hc : sig.contained = true) :
    (plan m base0 sig d).2 = .returned ∧ captures (plan m base0 sig d).1 = [.student] ∧
      slot (plan m base0 sig d).1 = some (some .student) := by
  unfold checkC04 at h
  split at h
  · contradiction
  · simpa [hc, and_assoc] using h

/-! ### From the checks to statements about `execute` -/

theorem baseOf_inv (s : St) (hs : s.Inv) : baseOf s = base0 := by
  obtain ⟨hp, ho⟩ := hs
  simp [baseOf, base0, hp, ho]

theorem sigOf_contained (cfg : Cfg) (t : Termination) (e : ExcDesc) (ht : t.exc? = some e)
    (hc : e.isException = true ∨ e.isSystemExit = true) (hz : hazardous cfg.unguarded e = false) :
    (sigOf cfg t false).contained = true ∧ (sigOf cfg t false).kind ≠ .normal := by
  cases t with
  | normal => cases ht
  | raised e' | compileFailed e' =>
    cases ht
    rcases hc with hc | hc <;> simp [sigOf, Sig.contained, hc, hz]

section
variable (cfg : Cfg) (hchk : ∀ sig, checkC04 cfg.probe cfg.exec sig = true) (style : TraceStyle) (nested : Bool)
  (s : St) (hs : s.Inv)
include hchk hs

/-- C04, one failing execution, for any configuration that passes the check. -/
theorem execute_contains (t : Termination) (e : ExcDesc) (ht : t.exc? = some e)
    (hc : e.isException = true ∨ e.isSystemExit = true) (hz : hazardous cfg.unguarded e = false) :
    (execute cfg style nested s t false).2 = .returned ∧
    (execute cfg style nested s t false).1.exception = some (reportedCls e) ∧
    (execute cfg style nested s t false).1.feedbacks = s.feedbacks ++
      [{ label := mapLabel (reportedCls e), excName := reportedCls e, line := chooseLine cfg.strategy e }] := by
  obtain ⟨hcont, hkind⟩ := sigOf_contained cfg t e ht hc hz
  obtain ⟨hret, hcap, hslot⟩ := checkC04_failing (hchk _) hkind hcont
  simp only [execute, baseOf_inv s hs]
  refine ⟨hret, ?_, ?_⟩
  · rw [applyPrims_exception, hslot]
    simp [slotValue, Env.reported, envOf, ht]
  · rw [applyPrims_feedbacks, hcap]
    simp [Env.mkFb, envOf, ht]

/-- C04, a normal execution: returns, nothing recorded, exception slot empty. -/
theorem execute_normal (inject : Bool) :
    (execute cfg style nested s .normal inject).2 = .returned ∧
    (execute cfg style nested s .normal inject).1.exception = none ∧
    (execute cfg style nested s .normal inject).1.feedbacks = s.feedbacks := by
  have hk := hchk (sigOf cfg .normal inject)
  have hkind : (sigOf cfg .normal inject).kind = .normal := rfl
  simp only [checkC04, hkind, Bool.and_eq_true, beq_iff_eq] at hk
  obtain ⟨⟨hret, hcap⟩, hslot⟩ := hk
  simp only [execute, baseOf_inv s hs]
  refine ⟨hret, ?_, ?_⟩
  · rw [applyPrims_exception, hslot]
    rfl
  · rw [applyPrims_feedbacks, hcap]
    exact List.append_nil _

end

/-! ### Executions started at any depth of the stacks, with executions nested in them -/

theorem applyPrimN_id (env : Env) : applyPrimN env id = applyPrim env :=
  funext fun _ => funext fun q => by cases q <;> rfl

theorem applyPrimsN_id (env : Env) (qs : List Prim) (s : St) : applyPrimsN env id s qs = applyPrims env s qs :=
  congrArg (List.foldl · s qs) (applyPrimN_id env)

/-- Without nested executions `executeN` is `execute`. -/
theorem executeN_id (cfg : Cfg) (style : TraceStyle) (nested : Bool) (s : St) (t : Termination) (inject : Bool) :
    executeN cfg style nested s t inject id = execute cfg style nested s t inject := by
  simp only [executeN, execute, applyPrimsN_id]

theorem stepOpN_id (cfg : Cfg) (s : St) (op : Op) : stepOpN cfg s op id = stepOp cfg s op := by
  simp only [stepOpN, stepOp, executeN_id]

theorem noHit_of_safe {c : Ctl} (h : c.all safePrim = true) : NoHit c :=
  fun hm => Bool.noConfusion (List.all_eq_true.mp h _ hm)

section
variable {cfg : Cfg} (hchk : ∀ sig, checkC05 cfg.probe cfg.exec sig = true)
include hchk

/-- For a configuration that passes the check, `_execute` does the same whatever is on the stacks. -/
theorem plan_any_base (b : Base) (sig : Sig) : plan cfg.probe b sig cfg.exec = plan cfg.probe base0 sig cfg.exec := by
  have hc := hchk sig
  simp only [checkC05, Bool.and_eq_true] at hc
  exact plan_transfer cfg.probe sig cfg.exec b (noHit_of_safe hc.1.1.2)

variable (hr : cfg.probe.stopRestores = true) {inner : St → St} (hin : Framed inner)
include hr hin

/-- C05, one execution started in ANY state of the stacks (i.e. possibly while other executions are in progress
    on the sandbox), whose code may itself start further executions that satisfy the same: both stacks and every
    borrowed global are exactly what they were when it started. -/
theorem executeN_framed {style : TraceStyle} {nested : Bool} (hst : TraceOK style nested) (t : Termination)
    (inject : Bool) : Framed fun s => (executeN cfg style nested s t inject inner).1 := by
  intro s
  have hc := hchk (sigOf cfg t inject)
  simp only [checkC05, Bool.and_eq_true, beq_iff_eq] at hc
  obtain ⟨⟨⟨⟨hp, ho⟩, hsafe⟩, hsp⟩, hso⟩ := hc
  simp only [executeN, plan_any_base hchk]
  exact applyPrimsN_frames (envOf cfg style nested t) hr (hst.and _) inner hin _ hsafe hsp hso hp ho s

theorem stepOpN_framed (op : Op) (hst : TraceOK op.style op.nested) : Framed fun s => (stepOpN cfg s op inner).1 := by
  intro s
  unfold stepOpN
  split
  · exact ⟨rfl, rfl, rfl⟩
  · exact executeN_framed hchk hr hin hst _ _ s
  · exact executeN_framed hchk hr hin hst _ _ s

end

mutual
/-- Every execution of the tree runs under a tracer style that restores the trace function. -/
def NOp.traceOK : NOp → Bool
  | .mk op inner => decide (TraceOK op.style op.nested) && NOp.allTraceOK inner
def NOp.allTraceOK : List NOp → Bool
  | [] => true
  | n :: ns => n.traceOK && NOp.allTraceOK ns
end

mutual
theorem runN_framed {cfg : Cfg} (hchk : ∀ sig, checkC05 cfg.probe cfg.exec sig = true)
    (hr : cfg.probe.stopRestores = true) : (n : NOp) → n.traceOK = true → Framed (runN cfg n)
  | .mk op inner, h => by
    simp only [NOp.traceOK, Bool.and_eq_true, decide_eq_true_eq] at h
    exact stepOpN_framed hchk hr (runNs_framed hchk hr inner h.2) op h.1
theorem runNs_framed {cfg : Cfg} (hchk : ∀ sig, checkC05 cfg.probe cfg.exec sig = true)
    (hr : cfg.probe.stopRestores = true) : (ns : List NOp) → NOp.allTraceOK ns = true → Framed (runNs cfg ns)
  | [], _ => framed_id
  | n :: ns, h => by
    simp only [NOp.allTraceOK, Bool.and_eq_true] at h
    exact (runN_framed hchk hr n h.1).comp (runNs_framed hchk hr ns h.2)
end

end Pedal.SandboxExec
