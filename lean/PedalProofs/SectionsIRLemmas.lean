import PedalModel.SectionsG
/-
Tie between the hand-written sections model (`Pedal.Sections.step` / `run`, which the C17 theorems are stated
about) and the arithmetic regenerated from pedal/source/sections.py on every run (`Pedal.Gen.Sections.program`).

* `nextG_of_agrees`    : code-independent - a program whose extracted expressions have the closed forms of
                         `Agrees` IS the hand model's `.next` step, for every state;
* `sections_ir_agrees` : the program generated from the current tree satisfies `Agrees` - one `simp` + `omega`
                         per expression, for ALL indices / lengths / newline counts (so `(1 + i) // 2`, a bound
                         spelled through a local, `found >= section_number` ... still pass, while an off-by-one, a
                         changed increment, `<` for `<=` or swapped arguments do not);
* `runG_eq_run`        : hence the function the driver executes equals the hand model on every operation sequence.
-/
namespace Pedal.Sections
open Pedal.SectionsIR

theorem sectionNumber_pred (n : Nat) : sectionNumber (n - 1) = n / 2 := by
  cases n <;> rfl

theorem nextG_of_agrees (p : Program) (h : Agrees p) (s : St) : nextG p s = some (step s .next) := by
  unfold nextG step
  simp only [h.shape.1, h.shape.2, Bool.and_self, Bool.not_true, Bool.false_eq_true, if_false]
  cases hsub : s.subs.getLast? with
  | none => rfl
  | some old =>
    -- the index after the increment and the two section numbers are casts of naturals, so that `toNat` and the
    -- comparison go back to `Nat` by rewriting
    have hi : (s.idx : Int) + 2 = ((s.idx + 2 : Nat) : Int) := rfl
    have hn := h.number
      { idx := ((s.idx + 2 : Nat) : Int), len := s.sections.length, nl := 0, number := 0, found := 0, param := 0 }
      (Int.natCast_nonneg _)
    have hf := h.found
      { idx := ((s.idx + 2 : Nat) : Int), len := s.sections.length, nl := 0, number := 0, found := 0, param := 0 }
      (Int.natCast_nonneg _)
    rw [show (((s.idx + 2 : Nat) : Int) + 1) / 2 = ((sectionNumber (s.idx + 2) : Nat) : Int) from rfl] at hn
    rw [show (s.sections.length : Int) / 2 = ((sectionNumber (s.sections.length - 1) : Nat) : Int) from
      (congrArg Nat.cast (sectionNumber_pred _)).symm] at hf
    simp only [h.inc, Option.bind_some, hi, hn, hf, h.guard, h.indepIndex, h.indepOldStop, h.indepOffset,
      h.cumulStop, h.notEnoughFirst, h.notEnoughSecond, Int.toNat_natCast, Int.toNat_natCast_add_one, Int.ofNat_le,
      decide_eq_true_eq]
    split
    · split <;> rfl
    · rfl

/-- The program generated from the current tree has the closed forms the model uses. -/
theorem sections_ir_agrees : Agrees Gen.Sections.program := by
  constructor
  case shape => decide
  all_goals
    intros
    simp [numberVia, guardVia, Gen.Sections.program, AExp.eval, Cmp.eval]
    try omega

theorem stepG_eq_step (s : St) (op : Op) : stepG s op = some (step s op) := by
  cases op <;> simp [stepG, nextG_of_agrees _ sections_ir_agrees]

/-- What the driver executes is the hand model, for the program generated from the current tree. -/
theorem runG_eq_run (s : St) (ops : List Op) : runG s ops = some (run s ops) := by
  induction ops generalizing s with
  | nil => rfl
  | cons op ops ih =>
    simp only [runG, run, stepG_eq_step]
    cases h : step s op with
    | none => rfl
    | some s' => simpa using ih s'

end Pedal.Sections
