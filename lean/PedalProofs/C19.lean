import PedalProofs.TypeOpsLemmas
/-
C19 — TIFA's operator typing and value typing agree with what CPython does at run time.
Property theorems only; helpers are in TypeOpsLemmas.  The model (`Pedal.Types.*`) is tied to pedal by the generated
tables (harness/translate_types.py: VALID_BINOP_TYPES by function identity, the `orderable` sets, and CPython's truth
by execution) and by the correspondence check (harness/c19.py).
-/
namespace Pedal.Types
open Pedal.Gen.Types

/-! ### the operator table -/

/-- Every cell: operator × ordered pair of run-time classes (the five core classes and bool) × every pedal type class
    TIFA may have given the operands.  CPython raises TypeError for all representatives ⇒ TIFA reports
    incompatible types; TIFA possibly silent ⇒ the class of the inferred type is one the run-time result class
    conforms to — except the three `**` result cells listed in `knownBad`.  (`decide` over the whole generated
    table.) -/
theorem c19_table_sound_partial : ∀ row ∈ cpython, cellOk knownBad row = true := by
  refine List.all_eq_true.mp ?_
  -- Evaluated with each `lookupBinop` confined to the rows of its operator: the kernel keeps the filtered
  -- `binopTable` of an operator once it has computed it, so a cell searches a dozen rows instead of all of them.
  unfold cellOk flagsKey resultKey binKey
  simp only [lookupBinop_filter]
  decide +kernel

/-- the full-strength statement: no exclusions -/
def C19_TableSound_Full : Prop := ∀ row ∈ cpython, cellOk [] row = true

/-- the partial theorem is the full one minus `knownBad` -/
theorem c19_table_full_of_no_excluded (h : ∀ row ∈ cpython, cellOk knownBad row = cellOk [] row) : C19_TableSound_Full :=
  fun row hr => (h row hr) ▸ c19_table_sound_partial row hr

/-- it is refuted on the pinned tree: `int ** int` is typed IntType but is a float for a negative exponent, and
    `int ** float` / `float ** float` are typed FloatType but are complex for a negative base -/
theorem c19_table_counterexample : ¬ C19_TableSound_Full := fun h =>
  absurd (h (.bin .pow, .int, .int, false, [.float, .int]) (by decide +kernel)) (by decide)

/-- every excluded result cell is really needed (dropping any one of them breaks the partial theorem) -/
theorem c19_known_bad_minimal :
    knownBad.all (fun b => !(cpython.all (cellOk (knownBad.filter (· != b))))) = true := by
  -- the rows of the cell's own operator already show it
  have h : knownBad.all (fun b => !((cpython.filter (·.1 == b.1)).all (cellOk (knownBad.filter (· != b))))) = true := by
    decide +kernel
  refine List.all_eq_true.mpr fun b hb => ?_
  have hb := List.all_eq_true.mp h b hb
  rw [Bool.not_eq_true'] at hb ⊢
  exact all_eq_false_of_filter hb

/-- soundness of a single application, on the model functions: operands typed with a class fitting their run-time
    class; (1) TypeError for all representatives ⇒ flagged, (2) not flagged ⇒ the result type's class fits every
    non-excluded run-time result class. -/
theorem c19_cell_sound (op : Op) (c1 c2 : Cls) (te : Bool) (results : List Cls)
    (hrow : (op, c1, c2, te, results) ∈ cpython) (l r : Ty)
    (hl : keyOf l ∈ keysOf c1) (hr : keyOf r ∈ keysOf c2) :
    (te = true → flagged op l r = true) ∧
    (flagged op l r = false → ∀ c ∈ results, (op, c1, c2, c) ∉ knownBad → keyOf (resultTy op l r) ∈ keysOf c) := by
  have hlany : keyOf l ≠ .any := fun h => any_not_in_keysOf c1 (h ▸ hl)
  have hrany : keyOf r ≠ .any := fun h => any_not_in_keysOf c2 (h ▸ hr)
  have hcell := c19_table_sound_partial _ hrow
  simp only [cellOk, List.all_eq_true, Bool.and_eq_true, Bool.or_eq_true, Bool.not_eq_true', beq_iff_eq,
    List.contains_iff_mem] at hcell
  obtain ⟨h1, h2⟩ := hcell _ hl _ hr
  have hflag := flagged_of_flagsKey op l r true hlany hrany
  refine ⟨fun hte => hflag (h1.resolve_left (by simp [hte])), fun hnf c hc hbad => ?_⟩
  rw [keyOf_resultTy op l r hlany hrany]
  exact ((h2.resolve_left fun h => Bool.noConfusion ((hflag h).symm.trans hnf)) c hc).resolve_left hbad

/-! ### expression trees -/

/-- every leaf's TIFA type has a class fitting the run-time class of the value the variable holds -/
def LeavesOk : Expr → Prop
  | .leaf c t => keyOf t ∈ keysOf c
  | .node _ l r => LeavesOk l ∧ LeavesOk r

/-- run-time classes an expression can evaluate to, according to the CPython table (minus the excluded cells) -/
inductive Runs : Expr → Cls → Prop
  | leaf (c : Cls) (t : Ty) : Runs (.leaf c t) c
  | node (op : Op) (l r : Expr) (c1 c2 c : Cls) (te : Bool) (results : List Cls) :
      Runs l c1 → Runs r c2 → (op, c1, c2, te, results) ∈ cpython → c ∈ results → (op, c1, c2, c) ∉ knownBad →
      Runs (.node op l r) c

/-- the evaluation raises TypeError: at some node whose operands evaluated, CPython raises TypeError for these classes -/
inductive RaisesTypeError : Expr → Prop
  | here (op : Op) (l r : Expr) (c1 c2 : Cls) (results : List Cls) :
      Runs l c1 → Runs r c2 → (op, c1, c2, true, results) ∈ cpython → RaisesTypeError (.node op l r)
  | left (op : Op) (l r : Expr) : RaisesTypeError l → RaisesTypeError (.node op l r)
  | right (op : Op) (l r : Expr) : RaisesTypeError r → RaisesTypeError (.node op l r)

/-- TIFA silent on an expression ⇒ the inferred type's class fits the class the expression evaluates to —
    ALL expression trees over core-typed leaves, by induction, from the table theorem. -/
theorem c19_expr_sound_partial (e : Expr) (hleaves : LeavesOk e) (c : Cls) (hrun : Runs e c)
    (hsilent : (infer e).2 = false) : keyOf (infer e).1 ∈ keysOf c := by
  induction hrun with
  | leaf c t => exact hleaves
  | node op l r c1 c2 c te results hl hr hrow hc hbad ihl ihr =>
    simp only [infer, Bool.or_eq_false_iff] at hsilent
    obtain ⟨⟨hfl, hfr⟩, hf⟩ := hsilent
    have kl := ihl hleaves.1 hfl
    have kr := ihr hleaves.2 hfr
    exact (c19_cell_sound op c1 c2 te results hrow _ _ kl kr).2 hf c hc hbad

/-- CPython raises TypeError somewhere in the expression ⇒ TIFA reports incompatible types — ALL expression trees. -/
theorem c19_expr_type_error_flagged (e : Expr) (hleaves : LeavesOk e) (hte : RaisesTypeError e) :
    (infer e).2 = true := by
  induction hte with
  | here op l r c1 c2 results hl hr hrow =>
    simp only [infer, Bool.or_eq_true]
    cases hfl : (infer l).2 with
    | true => exact Or.inl (Or.inl rfl)
    | false =>
      cases hfr : (infer r).2 with
      | true => exact Or.inl (Or.inr rfl)
      | false =>
        have kl := c19_expr_sound_partial l hleaves.1 c1 hl hfl
        have kr := c19_expr_sound_partial r hleaves.2 c2 hr hfr
        exact Or.inr ((c19_cell_sound op c1 c2 true results hrow _ _ kl kr).1 rfl)
  | left op l r _ ih => simp [infer, ih hleaves.1]
  | right op l r _ ih => simp [infer, ih hleaves.2]

/-- non-vacuity: `3 + 2.5` is silent, typed FloatType, and runs to float; `3 + 'ab'` raises and is flagged -/
example : infer (.node (.bin .add) (.leaf .int .litInt) (.leaf .float .litFloat)) = (.float, false) := by rfl
example : (infer (.node (.bin .add) (.leaf .int .litInt) (.leaf .str .litStr))).2 = true := by decide
example : Runs (.node (.bin .add) (.leaf .int .litInt) (.leaf .float .litFloat)) .float :=
  Runs.node _ _ _ .int .float .float false [.float] (Runs.leaf _ _) (Runs.leaf _ _) (by decide +kernel) (by decide) (by decide)

/-! ### value typing -/

/-- the pedal type of ANY nested value is a subtype of itself (with any `seen` state) -/
theorem c19_value_type_stable (v : Val) : isSubtype (typeOf v) (typeOf v) = true :=
  isSub_refl (typeOf v) {}

/-- `is_subtype` is reflexive on every pedal type, whatever is already in `seen` -/
theorem c19_is_subtype_reflexive (t : Ty) (s : Seen) : (isSub t t s).1 = true := isSub_refl t s

/-- the pedal type of ANY nested value conforms to the normalised form of the value's own Python type -/
theorem c19_value_type_conforms (v : Val) : isSubtype (typeOf v) (normForm v) = true := by
  cases v with
  | none | bool b | int i | float | str => rfl
  | list xs | set xs =>
    simp only [typeOf, normForm, isSubtype]
    split <;> simp [isSub, isSub_any]
  | tuple xs => simp [typeOf, normForm, isSubtype, isSub, isSubAll]
  | dict items =>
    obtain ⟨ps, hps⟩ := dictType_is_dict (pairTypes items)
    simp [typeOf, normForm, isSubtype, hps, isSub, dictAll_anyany]

/-- non-vacuity: a nested value, its type, and both facts evaluated -/
example : typeOf (.tuple (.cons (.int 1) (.cons .str .nil))) = .tuple (.cons .litInt (.cons .litStr .nil)) := by rfl
example : typeOf (.list (.cons (.int 1) (.cons .float .nil))) = .list false .litInt := by rfl

end Pedal.Types
