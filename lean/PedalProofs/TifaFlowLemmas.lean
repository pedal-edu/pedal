import PedalModel.TifaFlow
/-
Lemmas about the TIFA flow model: dictionaries, the path lookup, the state of a name as seen from the
current path (`look`) and what `load_variable`, `store_variable` and `merge_paths` do to it, and the
classification of explicit path lists.
-/
namespace Pedal.TifaFlow

/-! ### dictionaries -/

theorem get_put (m : NameMap) (x : Var) (s : VState) (y : Var) :
    get (put m x s) y = if x = y then some s else get m y := by
  induction m with
  | nil => rfl
  | cons h t ih =>
    obtain ⟨k, v⟩ := h
    by_cases hk : k = x
    · subst hk
      by_cases hy : k = y <;> simp [put, get, hy]
    · by_cases hy : k = y
      · subst hy
        simp [put, get, hk, Ne.symm hk]
      · simp [put, get, hk, hy, ih]

theorem mem_keys_of_get {m : NameMap} {x : Var} {v : VState} (h : get m x = some v) : x ∈ keys m := by
  induction m with
  | nil => cases h
  | cons hd t ih =>
    simp only [get] at h
    split at h
    · exact ‹hd.1 = x› ▸ List.mem_cons_self
    · exact List.mem_cons_of_mem _ (ih h)

theorem get_none_of_not_mem_keys {m : NameMap} {x : Var} (h : x ∉ keys m) : get m x = none := by
  cases hg : get m x with
  | none => rfl
  | some v => exact absurd (mem_keys_of_get hg) h

theorem writeAll_get (f : Var → Option VState) (ks : List Var) (p : NameMap) (y : Var) :
    get (writeAll f ks p) y = if y ∈ ks then (f y).or (get p y) else get p y := by
  induction ks generalizing p with
  | nil => rfl
  | cons k ks ih =>
    show get (writeAll f ks (match f k with | some v => put p k v | none => p)) y = _
    rw [ih]
    by_cases hky : k = y
    · subst hky
      cases hf : f k <;> simp [get_put]
    · cases hf : f k <;> simp [get_put, hky, Ne.symm hky]

/-! ### `findVar` -/

@[simp] theorem findVar_nil_cons (ms : List NameMap) (x : Var) : findVar ([] :: ms) x = findVar ms x := rfl

theorem findVar_cons (m : NameMap) (ms : List NameMap) (x : Var) :
    findVar (m :: ms) x = (get m x).or (findVar ms x) := by
  rw [findVar]; cases get m x <;> rfl

theorem findVar_put (m : NameMap) (ms : List NameMap) (x : Var) (s : VState) (y : Var) :
    findVar (put m x s :: ms) y = if x = y then some s else findVar (m :: ms) y := by
  simp only [findVar_cons, get_put]
  split <;> rfl

theorem findVar_single (m : NameMap) (x : Var) : findVar [m] x = get m x := by
  rw [findVar_cons]; cases get m x <;> rfl

/-! ### `merge_paths` is the pointwise merge of the two branch lookups -/

theorem matchRso_comm (a b : Tri) : matchRso a b = matchRso b a := by
  cases a <;> cases b <;> rfl

theorem matchRso_self (a : Tri) : matchRso a a = a := if_pos rfl

/-- "The common value, or else `m`" (the shape of `match_rso`, and of `Cls.join` below) is a value other
    than `m` only where both sides are that value. -/
theorem agree_eq {α : Type} [DecidableEq α] {a b t m : α} (ht : t ≠ m) :
    (if a = b then a else m) = t ↔ a = t ∧ b = t := by
  split
  · subst b; exact and_self_iff.symm
  · exact ⟨fun h => absurd h.symm ht, fun ⟨ha, hb⟩ => absurd (ha.trans hb.symm) ‹_›⟩

theorem matchRso_eq {a b t : Tri} (ht : t ≠ .maybe) : matchRso a b = t ↔ a = t ∧ b = t :=
  agree_eq ht

/-- `combine_states` treats a missing right state exactly like `State(set='no', read='no')`. -/
def VState.blank : VState := ⟨.no, .no⟩

def VState.merge (a b : VState) : VState := ⟨matchRso a.set b.set, matchRso a.read b.read⟩

theorem combine_eq (l : VState) (o : Option VState) : combine l o = l.merge (o.getD .blank) := by
  cases o with
  | some r => rfl
  | none =>
    have h (a : Tri) : (if a = .no then .no else .maybe) = matchRso a .no := by cases a <;> rfl
    simp only [combine, h]
    rfl

theorem VState.merge_comm (a b : VState) : a.merge b = b.merge a := by
  simp only [merge, matchRso_comm a.set, matchRso_comm a.read]

theorem VState.merge_self (a : VState) : a.merge a = a := by
  simp only [merge, matchRso_self]

/-- The state a name has after an if/while, from its states at the end of the two branch paths
    (`none` = the name is on neither that path nor any enclosing one). -/
def mergeOpt : Option VState → Option VState → Option VState
  | none, none => none
  | a, b => some ((a.getD .blank).merge (b.getD .blank))

theorem get_mergePaths (parent left right : NameMap) (chain : List NameMap) (x : Var) :
    get (mergePaths parent left right chain) x = (mergeVal parent left right chain x).or (get parent x) := by
  unfold mergePaths
  rw [writeAll_get]
  split
  · rfl
  · rename_i hx
    rw [List.mem_append, not_or] at hx
    simp [mergeVal, get_none_of_not_mem_keys hx.1, get_none_of_not_mem_keys hx.2]

/-- KEY LEMMA (merge of two branch states): after `merge_paths`, looking a name up from the parent
    path gives the merge of what the two branch paths see at their ends. -/
theorem findVar_mergePaths (parent left right : NameMap) (chain : List NameMap) (x : Var) :
    findVar (mergePaths parent left right chain :: chain) x =
      mergeOpt (findVar (left :: parent :: chain) x) (findVar (right :: parent :: chain) x) := by
  rw [findVar_cons, get_mergePaths, mergeVal, findVar_cons left, findVar_cons right]
  cases get left x with
  | some ls =>
    simp only [combine_eq, Option.some_or]
    cases (get right x).or (findVar (parent :: chain) x) <;> rfl
  | none =>
    cases get right x with
    | some rs =>
      simp only [combine_eq, Option.some_or, Option.none_or]
      cases findVar (parent :: chain) x <;> simp [mergeOpt, VState.merge_comm rs]
    | none =>
      simp only [Option.none_or, ← findVar_cons]
      cases findVar (parent :: chain) x <;> simp [mergeOpt, VState.merge_self]

/-! ### the state of a name seen from a path -/

/-- What `find_variable_scope` finds for `x` from the path whose chain is `maps`, a name on no path of
    the chain counting as `State(set='no', read='no')`. -/
def look (maps : List NameMap) (x : Var) : VState := (findVar maps x).getD .blank

theorem look_mergePaths (parent left right : NameMap) (chain : List NameMap) (x : Var) :
    look (mergePaths parent left right chain :: chain) x =
      (look (left :: parent :: chain) x).merge (look (right :: parent :: chain) x) := by
  unfold look
  rw [findVar_mergePaths]
  cases findVar (left :: parent :: chain) x <;> cases findVar (right :: parent :: chain) x <;> rfl

/-- `load_variable` marks the name read and leaves everything else as it was. -/
theorem findVar_load (chain : List NameMap) (line : Nat) (st : St) (r x : Var) :
    findVar ((load chain line st r).cur :: chain) x =
      if r = x then some { look (st.cur :: chain) r with read := .yes } else findVar (st.cur :: chain) x := by
  unfold load look
  cases findVar (st.cur :: chain) r <;> exact findVar_put ..

theorem look_load (chain : List NameMap) (line : Nat) (st : St) (r x : Var) :
    look ((load chain line st r).cur :: chain) x =
      if r = x then { look (st.cur :: chain) x with read := .yes } else look (st.cur :: chain) x := by
  rw [look, findVar_load]
  split
  · subst x; rfl
  · rfl

theorem findVar_store (chain : List NameMap) (st : St) (y x : Var) :
    findVar ((store st y).cur :: chain) x = if y = x then some ⟨.yes, .no⟩ else findVar (st.cur :: chain) x :=
  findVar_put ..

theorem look_store (chain : List NameMap) (st : St) (y x : Var) :
    look ((store st y).cur :: chain) x = if y = x then ⟨.yes, .no⟩ else look (st.cur :: chain) x := by
  rw [look, findVar_store]
  split <;> rfl

/-! ### classification of explicit path lists

`absSet` (the analysis) and `concSet` (the paths) turn the three operations into the same functions on `Cls`:
a load / a read is the identity, a store / a write overwrites with `all`, `merge_paths` / the union of two
path lists is `Cls.join`. -/

def Cls.join (a b : Cls) : Cls := if a = b then a else .some

theorem Cls.join_eq {a b t : Cls} (ht : t ≠ .some) : a.join b = t ↔ a = t ∧ b = t :=
  agree_eq ht

def triCls : Tri → Cls
  | .yes => .all
  | .no => .none
  | .maybe => .some

/-- Abstract assigned-before classification: what `find_variable_scope` + `state.set` say. -/
def absSet (maps : List NameMap) (x : Var) : Cls :=
  match findVar maps x with
  | none => .none
  | some v => triCls v.set

theorem absSet_eq (maps : List NameMap) (x : Var) : absSet maps x = triCls (look maps x).set := by
  unfold absSet look; cases findVar maps x <;> rfl

theorem triCls_matchRso (a b : Tri) : triCls (matchRso a b) = (triCls a).join (triCls b) := by
  cases a <;> cases b <;> rfl

theorem absSet_load (chain : List NameMap) (line : Nat) (st : St) (r x : Var) :
    absSet ((load chain line st r).cur :: chain) x = absSet (st.cur :: chain) x := by
  rw [absSet_eq, absSet_eq, look_load]
  split <;> rfl

theorem absSet_store (chain : List NameMap) (st : St) (y x : Var) :
    absSet ((store st y).cur :: chain) x = if y = x then .all else absSet (st.cur :: chain) x := by
  rw [absSet_eq, absSet_eq, look_store]
  split <;> rfl

theorem absSet_mergePaths (parent left right : NameMap) (chain : List NameMap) (x : Var) :
    absSet (mergePaths parent left right chain :: chain) x =
      (absSet (left :: parent :: chain) x).join (absSet (right :: parent :: chain) x) := by
  simp only [absSet_eq, look_mergePaths]
  exact triCls_matchRso ..

/-- On a non-empty list at most one of the two tests of `classify` succeeds. -/
theorem all_id_not_false {bs : List Bool} (hne : bs ≠ []) (h : bs.all id = true) : bs.all not = false := by
  cases bs with
  | nil => exact absurd rfl hne
  | cons b t =>
    rw [List.all_cons, Bool.and_eq_true] at h
    rw [List.all_cons, show b = true from h.1]
    rfl

theorem classify_append {as bs : List Bool} (ha : as ≠ []) (hb : bs ≠ []) :
    classify (as ++ bs) = (classify as).join (classify bs) := by
  have table : ∀ a n a' n' : Bool, (a = true → n = false) → (a' = true → n' = false) →
      (if (a && a') = true then Cls.all else if (n && n') = true then .none else .some) =
        (if a = true then Cls.all else if n = true then .none else .some).join
          (if a' = true then .all else if n' = true then .none else .some) := by decide
  simp only [classify, List.all_append]
  exact table _ _ _ _ (all_id_not_false ha) (all_id_not_false hb)

theorem classify_eq_all {bs : List Bool} : classify bs = .all ↔ bs.all id = true := by
  unfold classify
  split
  · simp [*]
  · split <;> simp [*]

theorem classify_eq_none {bs : List Bool} (hne : bs ≠ []) : classify bs = .none ↔ bs.all not = true := by
  unfold classify
  split
  · simp [all_id_not_false hne ‹_›]
  · split <;> simp [*]

theorem concSet_append {ps qs : List PState} (hp : ps ≠ []) (hq : qs ≠ []) (x : Var) :
    concSet (ps ++ qs) x = (concSet ps x).join (concSet qs x) := by
  unfold concSet
  rw [List.map_append]
  exact classify_append (mt List.map_eq_nil_iff.1 hp) (mt List.map_eq_nil_iff.1 hq)

theorem concSet_all_iff {ps : List PState} {x : Var} : concSet ps x = .all ↔ ∀ σ ∈ ps, x ∈ σ.asg := by
  simp [concSet, classify_eq_all]

theorem concSet_none_iff {ps : List PState} (hne : ps ≠ []) {x : Var} :
    concSet ps x = .none ↔ ∀ σ ∈ ps, x ∉ σ.asg := by
  simp [concSet, classify_eq_none (mt List.map_eq_nil_iff.1 hne)]

theorem concSet_some_iff {ps : List PState} (hne : ps ≠ []) {x : Var} :
    concSet ps x = .some ↔ (∃ σ ∈ ps, x ∈ σ.asg) ∧ (∃ σ ∈ ps, x ∉ σ.asg) := by
  have h1 := not_congr (concSet_none_iff hne (x := x))
  have h2 := not_congr (concSet_all_iff (ps := ps) (x := x))
  simp only [Classical.not_forall, Classical.not_not, exists_prop] at h1 h2
  rw [← h1, ← h2]
  cases concSet ps x <;> decide

theorem mem_rd_pRead {σ : PState} {r x : Var} : x ∈ (pRead σ r).rd ↔ x = r ∨ x ∈ σ.rd :=
  List.mem_cons

theorem mem_asg_pWrite {σ : PState} {y x : Var} : x ∈ (pWrite σ y).asg ↔ x = y ∨ x ∈ σ.asg :=
  List.mem_cons

theorem mem_rd_pWrite {σ : PState} {y x : Var} : x ∈ (pWrite σ y).rd ↔ x ∈ σ.rd ∧ x ≠ y := by
  simp [pWrite]

theorem concSet_map_pRead (ps : List PState) (r x : Var) :
    concSet (ps.map (pRead · r)) x = concSet ps x := by
  rw [concSet, List.map_map]
  rfl

theorem concSet_map_pWrite (ps : List PState) (y x : Var) :
    concSet (ps.map (pWrite · y)) x = if y = x then .all else concSet ps x := by
  split
  · subst x
    exact concSet_all_iff.2 fun σ hσ => by
      obtain ⟨τ, _, rfl⟩ := List.mem_map.1 hσ
      exact List.mem_cons_self
  · simp [concSet, List.map_map, Function.comp_def, mem_asg_pWrite, Ne.symm ‹_›]

end Pedal.TifaFlow
