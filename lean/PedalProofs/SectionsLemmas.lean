import PedalModel.Sections
/-
Text lemmas for C17: `split("\n")`/join round trip, how line numbers compose under concatenation,
and what `splitGo` / `splitGoNL` (the models of re.split) produce.
-/
namespace Pedal.Sections

/-! ### `splitLines`, `joinLines`, `countNL`, `lineAt` -/

theorem splitLines_ne_nil (t : Text) : splitLines t ≠ [] := by
  cases t with
  | nil => simp [splitLines]
  | cons c cs =>
    unfold splitLines
    split
    · simp
    · split <;> simp

/-- `splitLines` by the first character; the split of the rest is never empty. -/
theorem splitLines_cons (c : Char) (cs : Text) :
    ∃ l ls, splitLines cs = l :: ls ∧
      splitLines (c :: cs) = if c = '\n' then [] :: l :: ls else (c :: l) :: ls :=
  match h : splitLines cs with
  | [] => absurd h (splitLines_ne_nil cs)
  | l :: ls => ⟨l, ls, rfl, by rw [splitLines, h]⟩

theorem splitLines_cons_nl (cs : Text) : splitLines ('\n' :: cs) = [] :: splitLines cs := by
  simp [splitLines]

theorem joinLines_cons (l : Text) (ls : List Text) :
    joinLines (l :: ls) = l ++ ls.flatMap ('\n' :: ·) := by
  induction ls generalizing l with
  | nil => simp [joinLines]
  | cons l2 ls ih => simp [joinLines, ih]

theorem joinLines_splitLines (t : Text) : joinLines (splitLines t) = t := by
  induction t with
  | nil => rfl
  | cons c cs ih =>
    obtain ⟨l, ls, hcs, hc⟩ := splitLines_cons c cs
    rw [hcs, joinLines_cons] at ih
    rw [hc]
    split <;> simp [joinLines_cons, *]

theorem length_splitLines (t : Text) : (splitLines t).length = countNL t + 1 := by
  induction t with
  | nil => rfl
  | cons c cs ih =>
    obtain ⟨l, ls, hcs, hc⟩ := splitLines_cons c cs
    rw [hcs] at ih
    rw [hc, countNL]
    split
    · rw [List.length_cons, ih]
      omega
    · rw [Nat.zero_add]
      exact ih

theorem countNL_append (a b : Text) : countNL (a ++ b) = countNL a + countNL b := by
  induction a with
  | nil => simp [countNL]
  | cons x xs ih => simp [countNL, ih, Nat.add_assoc]

/-- Splitting distributes over a newline boundary. -/
theorem splitLines_append_nl (x y : Text) : splitLines (x ++ '\n' :: y) = splitLines x ++ splitLines y := by
  induction x with
  | nil => simp [splitLines]
  | cons c cs ih =>
    obtain ⟨l, ls, hcs, hc⟩ := splitLines_cons c cs
    obtain ⟨l', ls', hcs', hc'⟩ := splitLines_cons c (cs ++ '\n' :: y)
    rw [ih, hcs] at hcs'
    cases hcs'
    rw [List.cons_append, hc, hc']
    split <;> rfl

/-- Lines that are terminated inside `x` are not affected by what follows `x`. -/
theorem splitLines_append_prefix (x y : Text) (i : Nat) (h : i < countNL x) :
    (splitLines (x ++ y))[i]? = (splitLines x)[i]? := by
  induction x generalizing i with
  | nil => simp [countNL] at h
  | cons c cs ih =>
    obtain ⟨l, ls, hcs, hc⟩ := splitLines_cons c cs
    obtain ⟨l', ls', hcs', hc'⟩ := splitLines_cons c (cs ++ y)
    rw [hcs, hcs'] at ih
    rw [List.cons_append, hc, hc']
    rw [countNL] at h
    by_cases hn : c = '\n'
    · simp only [if_pos hn] at h ⊢
      cases i with
      | zero => rfl
      | succ j => exact ih j (by omega)
    · simp only [if_neg hn, Nat.zero_add] at h ⊢
      cases i with
      | zero => exact congrArg (Option.map (c :: ·)) (ih 0 h)
      | succ j => exact ih (j + 1) h

/-- Lines that start after the first newline of `y` are not affected by what precedes `y`, only renumbered. -/
theorem splitLines_append_suffix (x y : Text) (i : Nat) :
    (splitLines (x ++ y))[countNL x + (i + 1)]? = (splitLines y)[i + 1]? := by
  induction x with
  | nil => simp [countNL]
  | cons c cs ih =>
    obtain ⟨l, ls, hcs, hc⟩ := splitLines_cons c (cs ++ y)
    rw [hcs] at ih
    rw [List.cons_append, hc, countNL, ← ih]
    split
    · rw [Nat.add_assoc, Nat.add_comm 1]; rfl
    · rw [Nat.zero_add]; rfl

/-- Whole-file line numbers: line `r ≥ 2` of `b`, if it ends inside `b`, is line `countNL a + r` of
    `a ++ b ++ c`, whatever `a` and `c` are. -/
theorem lineAt_section (a b c : Text) (r : Nat) (hr : 2 ≤ r) (hin : r ≤ countNL b) :
    lineAt (a ++ (b ++ c)) (countNL a + r) = lineAt b r := by
  obtain ⟨i, rfl⟩ := Nat.exists_eq_add_of_le' hr
  exact (splitLines_append_suffix a (b ++ c) i).trans (splitLines_append_prefix b c (i + 1) hin)

/-- The same from `r = 1` on when `b` begins at a line start: the text before it ends with a newline. -/
theorem lineAt_section_at_line_start (a b c : Text) (r : Nat) (hr : 1 ≤ r) (hin : r ≤ countNL b) :
    lineAt (a ++ ['\n'] ++ (b ++ c)) (countNL (a ++ ['\n']) + r) = lineAt b r := by
  obtain ⟨i, rfl⟩ := Nat.exists_eq_add_of_le' hr
  have h := splitLines_append_suffix a ('\n' :: (b ++ c)) i
  rw [splitLines_cons_nl] at h
  rw [countNL_append, show countNL ['\n'] = 1 from rfl, Nat.add_right_comm, List.append_assoc]
  exact h.trans (splitLines_append_prefix b c i hin)

/-! ### `concat` -/

theorem concat_cons (c : Text) (cs : List Text) : concat (c :: cs) = c ++ concat cs := rfl

theorem concat_append (a b : List Text) : concat (a ++ b) = concat a ++ concat b := by
  induction a with
  | nil => rfl
  | cons x xs ih => rw [List.cons_append, concat_cons, concat_cons, ih, List.append_assoc]

theorem concat_take_drop (secs : List Text) (n : Nat) :
    concat (secs.take n) ++ concat (secs.drop n) = concat secs := by
  rw [← concat_append, List.take_append_drop]

theorem concat_eq_of_getElem? (secs : List Text) (n : Nat) (c : Text) (hc : secs[n]? = some c) :
    concat secs = concat (secs.take n) ++ (c ++ concat (secs.drop (n + 1))) := by
  obtain ⟨hlt, rfl⟩ := List.getElem?_eq_some_iff.mp hc
  rw [← concat_take_drop secs n, List.drop_eq_getElem_cons hlt]
  rfl

theorem concat_take_succ (l : List Text) (n : Nat) (m : Text) (hm : l[n]? = some m) :
    concat (l.take (n + 1)) = concat (l.take n) ++ m := by
  rw [List.take_add_one, hm, concat_append]
  simp [concat]

theorem lineAt_concat (secs : List Text) (n : Nat) (c : Text) (hc : secs[n]? = some c) (r : Nat)
    (hr : 2 ≤ r) (hin : r ≤ countNL c) :
    lineAt (concat secs) (countNL (concat (secs.take n)) + r) = lineAt c r := by
  rw [concat_eq_of_getElem? secs n c hc]
  exact lineAt_section _ c _ r hr hin

theorem lineAt_concat_at_line_start (secs : List Text) (n : Nat) (c : Text) (hc : secs[n]? = some c) (a : Text)
    (ha : concat (secs.take n) = a ++ ['\n']) (r : Nat) (hr : 1 ≤ r) (hin : r ≤ countNL c) :
    lineAt (concat secs) (countNL (concat (secs.take n)) + r) = lineAt c r := by
  rw [concat_eq_of_getElem? secs n c hc, ha]
  exact lineAt_section_at_line_start a c _ r hr hin

/-! ### `splitGo`, `splitGoNL`: the chunks concatenate to the text of the lines -/

theorem zipMarks_fst (lines : List Text) (marks : List Bool) : (zipMarks lines marks).map (·.1) = lines :=
  List.map_fst_zip (by simp; omega)

/-- The text that the lines not yet consumed stand for; unless `first`, it begins with the newline that ends
    the line before. -/
def pendingText (lines : List (Text × Bool)) (first : Bool) : Text :=
  joinLines (if first then lines.map (·.1) else [] :: lines.map (·.1))

theorem pendingText_nil (first : Bool) : pendingText [] first = [] := by
  cases first <;> rfl

theorem pendingText_cons (l : Text × Bool) (ls : List (Text × Bool)) (cur : Text) (first : Bool) :
    cur ++ pendingText (l :: ls) first = (if first then cur else cur ++ ['\n']) ++ l.1 ++ pendingText ls false := by
  cases first <;> simp [pendingText, joinLines_cons]

theorem pendingText_true {ls : List (Text × Bool)} (h : ls.isEmpty = false) :
    '\n' :: pendingText ls true = pendingText ls false := by
  cases ls with
  | nil => cases h
  | cons l ls => simp [pendingText, joinLines_cons]

theorem concat_splitGo (lines : List (Text × Bool)) (cur : Text) (first : Bool) :
    concat (splitGo lines cur first) = cur ++ pendingText lines first := by
  induction lines generalizing cur first with
  | nil => rw [pendingText_nil]; rfl
  | cons l ls ih =>
    rw [pendingText_cons, splitGo]
    split
    · rw [concat_cons, concat_cons, ih, List.nil_append, List.append_assoc]
    · rw [ih]

theorem concat_splitGoNL (lines : List (Text × Bool)) (cur : Text) (first : Bool) :
    concat (splitGoNL lines cur first) = cur ++ pendingText lines first := by
  induction lines generalizing cur first with
  | nil => rw [pendingText_nil]; rfl
  | cons l ls ih =>
    rw [pendingText_cons, splitGoNL]
    split
    · rename_i h
      simp only [Bool.and_eq_true, Bool.not_eq_true'] at h
      rw [concat_cons, concat_cons, ih, ← pendingText_true h.2]
      simp
    · rw [ih]

theorem concat_splitMode (takesNL : Bool) (lines : List (Text × Bool)) :
    concat (splitMode takesNL lines) = joinLines (lines.map (·.1)) := by
  unfold splitMode splitSections
  split
  · exact concat_splitGoNL lines [] true
  · exact concat_splitGo lines [] true

end Pedal.Sections
