import PedalProofs.StaticChecksLemmas
/-
C08 — static ensure_*/prevent_* checks agree with the student's actual syntax tree.
Traversal and list helpers are in StaticChecksLemmas.  The model (`Pedal.Static.*`) is tied to pedal by
the generated operator tables (harness/translate_operators.py) and by the correspondence check (harness/c08.py).
-/
namespace Pedal.Static
open Pedal.Gen.Operators

/-! ### what CPython says an operator symbol is -/

/-- CPython's reading of a symbol: the binary/comparison/boolean reading when there is one (so `+` and `-`
    mean `Add` / `Sub`, as pedal documents), otherwise the unary one. -/
def cpyLookup (sym : String) : Option (String × String) :=
  match cpythonOps.find? (fun r => r.1 = sym && r.2.1 != "UnaryOp") with
  | some r => some r.2
  | none => (cpythonOps.find? (fun r => r.1 = sym)).map (·.2)

/-- the symbols the property quantifies over: every operator class of the running CPython -/
def Documented (sym : String) : Prop := ∃ r ∈ cpythonOps, r.1 = sym

/-- Every operator symbol CPython has is in pedal's tables with CPython's own expression class and
    operator class, and pedal's tables contain nothing else.  (`decide` over both generated tables.) -/
theorem c08_symbol_table_agrees :
    (∀ r ∈ cpythonOps, pedalLookup r.1 = cpyLookup r.1) ∧
    (∀ r ∈ compareOps ++ boolOps ++ binOps ++ unaryOps, pedalLookup r.1 = cpyLookup r.1) ∧
    (∀ r ∈ cpythonOps, (cpyLookup r.1).isSome = true) := by decide +kernel

/-- A documented symbol resolves, to the same expression class and operator class in pedal's tables as in
    CPython's. -/
theorem lookup_documented (sym : String) (h : Documented sym) :
    ∃ family cls, cpyLookup sym = some (family, cls) ∧ pedalLookup sym = some (family, cls) := by
  obtain ⟨r, hr, rfl⟩ := h
  obtain ⟨⟨family, cls⟩, hc⟩ := Option.isSome_iff_exists.mp (c08_symbol_table_agrees.2.2 r hr)
  exact ⟨family, cls, hc, (c08_symbol_table_agrees.1 r hr).trans hc⟩

/-! ### find_all -/

/-- `find_all(k)` returns exactly the nodes a plain pre-order walk finds for `k`, in walk order — for ALL
    trees and all node names, including the `Num`/`Str`/`Bool` split of `Constant`. -/
theorem c08_find_all_is_walk_filter (k : String) (t : Tree) :
    findAll k t = (walk t).filter (isKind k) := findAll_eq_filter k t

/-- for an ordinary node name the test is just the class name -/
theorem c08_find_all_plain (k : String) (t : Tree) (h1 : k ≠ "Num") (h2 : k ≠ "Str") (h3 : k ≠ "Bool") :
    findAll k t = (walk t).filter (fun n => decide (n.kind = k)) := by
  rw [findAll_eq_filter]
  congr 1
  funext n
  exact isKind_plain k n h1 h2 h3

/-! ### find_operation -/

/-- occurrences of a symbol according to CPython: over the walked nodes of the expression class CPython
    parses the symbol into, the number of operator positions holding CPython's operator class. -/
def cpythonOccurrences (sym : String) (t : Tree) : Nat :=
  match cpyLookup sym with
  | some (family, cls) => (((walk t).filter (isKind family)).map (opHits family cls)).sum
  | none => 0

/-- `len(find_operation(sym))` is CPython's count, for every documented symbol and every tree. -/
theorem c08_find_operation_count (sym : String) (h : Documented sym) (t : Tree) :
    (findOperation sym t).length = cpythonOccurrences sym t := by
  obtain ⟨family, cls, hc, hp⟩ := lookup_documented sym h
  simp only [findOperation, cpythonOccurrences, hc, hp, length_flatMap_replicate, findAll_eq_filter]

/-- the nodes `find_operation` returns are walked nodes of CPython's expression class that hold the operator -/
theorem c08_find_operation_mem (sym : String) (h : Documented sym) (t n : Tree) :
    n ∈ findOperation sym t ↔
      ∃ family cls, cpyLookup sym = some (family, cls) ∧ n ∈ walk t ∧ isKind family n = true ∧ opHits family cls n ≠ 0 := by
  obtain ⟨family, cls, hc, hp⟩ := lookup_documented sym h
  simp only [findOperation, hc, hp, mem_flatMap_replicate, findAll_eq_filter, List.mem_filter, and_assoc]
  exact ⟨fun h => ⟨_, _, rfl, h⟩, fun ⟨_, _, heq, h⟩ => by cases heq; exact h⟩

/-- the four expression classes are ordinary node names (no Constant split involved) -/
theorem c08_operator_families_plain :
    ∀ r ∈ cpythonOps, r.2.1 ≠ "Num" ∧ r.2.1 ≠ "Str" ∧ r.2.1 ≠ "Bool" := by decide +kernel

/-! ### find_function_calls -/

theorem c08_find_function_calls (name : String) (t : Tree) :
    findFunctionCalls name t = (walk t).filter (fun n => decide (n.kind = "Call") && isCallTo name n) := by
  unfold findFunctionCalls
  rw [findAll_eq_filter, List.filter_filter]
  congr 1
  funext n
  rw [isKind_plain "Call" n (by decide) (by decide) (by decide), Bool.and_comm]

/-! ### literals -/

/-- literal values the property covers (non-None values of the four scalar types) -/
def Queryable : Prim → Prop
  | .bool _ | .int _ | .flt _ _ | .str _ => True
  | _ => False

/-- Within a type Python's `==` is equality of the values; across types `sameType` says no. -/
theorem sameType_and_pyEq (lit v : Prim) (h : Queryable lit) :
    (sameType v lit && pyEq lit v) = decide (v = lit) := by
  cases lit <;> try exact h.elim
  all_goals cases v <;> simp [sameType, pyEq, eq_comm, Bool.beq_eq_decide_eq]

/-- A literal query counts exactly the constants equal to the literal in value AND type. -/
theorem c08_literal_same_type (lit : Prim) (h : Queryable lit) (t : Tree) :
    literalUses lit t = (walk t).filter (fun n => isConstant n && decide (n.attr "value" = lit)) := by
  unfold literalUses literalMatches
  rw [List.filter_filter]
  congr 1
  funext n
  rw [← sameType_and_pyEq lit _ h]
  cases isConstant n <;> rfl

/-- non-vacuity / the repaired defect: `1` is not satisfied by `True` or `1.0` -/
example : literalUses (.int 1) (.node "Constant" "value" (some 1) (some 0) [("value", .bool true)] []) = [] := by decide +kernel
example : literalUses (.int 1) (.node "Constant" "value" (some 1) (some 0) [("value", .flt 1 1)] []) = [] := by decide +kernel
example : (literalUses (.int 1) (.node "Constant" "value" (some 1) (some 0) [("value", .int 1)] [])).length = 1 := by decide +kernel

/-! ### literal types -/

/-- "a constant whose value has this Python type" / a `List` / `Dict` display -/
def isLiteralOfType (ty : LitType) (n : Tree) : Bool :=
  match ty with
  | .bool => isConstant n && (match n.attr "value" with | .bool _ => true | _ => false)
  | .str => isConstant n && (match n.attr "value" with | .str _ => true | _ => false)
  | .int => isConstant n && (match n.attr "value" with | .int _ => true | _ => false)
  | .float => isConstant n && (match n.attr "value" with | .flt _ _ => true | .fltx _ => true | _ => false)
  | .list => decide (n.kind = "List")
  | .dict => decide (n.kind = "Dict")

/-- Every literal-type query returns exactly the walked nodes of that literal type; `bool` asks for `False`
    and for `True` in turn, so in another order than the walk's. -/
theorem literalTypeUses_perm (ty : LitType) (t : Tree) :
    (literalTypeUses ty t).Perm ((walk t).filter (isLiteralOfType ty)) := by
  cases ty
  case bool =>
    rw [literalTypeUses, c08_literal_same_type (.bool false) trivial, c08_literal_same_type (.bool true) trivial]
    refine (filter_append_filter_perm _ _ _ fun n h => ?_).trans
      (.of_eq (congrArg (List.filter · _) (funext fun n => ?_)))
    · simp only [Bool.and_eq_true, decide_eq_true_eq] at h
      simp [h.2]
    · simp only [isLiteralOfType]
      cases isConstant n
      · rfl
      · cases n.attr "value" with
        | bool b => cases b <;> rfl
        | _ => rfl
  -- `find_all` of the name itself: the node test unfolds to the literal-type test
  case str | list | dict => exact .of_eq (findAll_eq_filter _ t)
  -- `Num` narrowed to one of its two types
  all_goals
    rw [literalTypeUses, findAll_eq_filter, List.filter_filter]
    refine .of_eq (congrArg (List.filter · _) (funext fun n => ?_))
    simp only [isLiteralOfType, isKind, isConstant]
    cases n.attr "value" <;> simp

theorem c08_literal_type_mem (ty : LitType) (t n : Tree) :
    n ∈ literalTypeUses ty t ↔ n ∈ walk t ∧ isLiteralOfType ty n = true :=
  (literalTypeUses_perm ty t).mem_iff.trans List.mem_filter

/-- every literal-type query counts exactly the walked nodes of that literal type -/
theorem c08_literal_type_count (ty : LitType) (t : Tree) :
    (literalTypeUses ty t).length = (walk t).countP (isLiteralOfType ty) :=
  (literalTypeUses_perm ty t).length_eq.trans List.countP_eq_length_filter.symm

/-! ### imports -/

/-- `has_import` is "some walked Import names the module in one of its aliases, or some walked ImportFrom
    has it as its module" -/
theorem c08_has_import_iff (name : String) (t : Tree) :
    hasImport name t = true ↔
      ∃ n ∈ walk t,
        (n.kind = "Import" ∧ ∃ al ∈ n.childrenOf "names", al.attr "name" = Prim.str name) ∨
        (n.kind = "ImportFrom" ∧ n.attr "module" = Prim.str name) := by
  simp only [hasImport, Bool.or_eq_true, List.any_eq_true, findAll_eq_filter, List.mem_filter, beq_iff_eq,
    isKind_plain "Import" _ (by decide) (by decide) (by decide),
    isKind_plain "ImportFrom" _ (by decide) (by decide) (by decide), decide_eq_true_eq, and_assoc, and_or_left,
    exists_or]

/-! ### thresholds -/

/-- `ensure_*(…, at_least=n)` fires exactly when there are fewer than `n` uses — all `n`, all use lists -/
theorem c08_ensure_fires_iff (n : Nat) (us : List Tree) : ensureFires n us = true ↔ us.length < n := by
  simp [ensureFires]

/-- `prevent_*(…, at_most=m)` fires exactly when there are more than `m` uses — all `m`, all use lists -/
theorem c08_prevent_fires_iff (m : Nat) (us : List Tree) : preventFires m us = true ↔ us.length > m := by
  simp only [preventFires, Bool.and_eq_true, bne_iff_ne, ne_eq, decide_eq_true_eq]
  exact ⟨(·.2), fun h => ⟨Nat.ne_of_gt (Nat.zero_lt_of_lt h), h⟩⟩

example : ensureFires 2 [default] = true ∧ ensureFires 1 [default] = false ∧ ensureFires 0 [] = false := by decide
example : preventFires 0 [default] = true ∧ preventFires 1 [default] = false ∧ preventFires 0 [] = false := by decide

/-! ### the count each query is compared with -/

/-- the number of occurrences a plain walk of the syntax tree finds for a query -/
def specCount : Query → Tree → Nat
  | .op sym, t => cpythonOccurrences sym t
  | .call name, t => (walk t).countP (fun n => decide (n.kind = "Call") && isCallTo name n)
  | .literal lit, t => (walk t).countP (fun n => isConstant n && decide (n.attr "value" = lit))
  | .litType ty, t => (walk t).countP (isLiteralOfType ty)
  | .ast k, t => (walk t).countP (isKind k)

/-- the queries the property quantifies over -/
def InScope : Query → Prop
  | .op sym => Documented sym
  | .literal lit => Queryable lit
  | _ => True

theorem c08_use_count (q : Query) (h : InScope q) (t : Tree) : (uses q t).length = specCount q t := by
  cases q with
  | op sym => exact c08_find_operation_count sym h t
  | call name => simp only [uses, specCount, c08_find_function_calls, List.countP_eq_length_filter]
  | literal lit => simp only [uses, specCount, c08_literal_same_type lit h, List.countP_eq_length_filter]
  | litType ty => exact c08_literal_type_count ty t
  | ast k => simp only [uses, specCount, findAll_eq_filter, List.countP_eq_length_filter]

/-- ensure fires ⇔ walk count < n; prevent fires ⇔ walk count > m — every in-scope query, tree, threshold -/
theorem c08_ensure_prevent_agree_with_walk (q : Query) (h : InScope q) (t : Tree) (n m : Nat) :
    (ensureFires n (uses q t) = true ↔ specCount q t < n) ∧
    (preventFires m (uses q t) = true ↔ specCount q t > m) := by
  rw [c08_ensure_fires_iff, c08_prevent_fires_iff, c08_use_count q h t]
  exact ⟨Iff.rfl, Iff.rfl⟩

/-! ### reported line -/

theorem uses_subset_walk (q : Query) (t n : Tree) (hn : n ∈ uses q t) : n ∈ walk t := by
  cases q with
  | op sym =>
    rw [uses, findOperation] at hn
    split at hn
    · exact (mem_findAll.mp ((mem_flatMap_replicate ..).mp hn).1).1
    · cases hn
  | call name => exact (mem_findAll.mp (List.mem_filter.mp hn).1).1
  | literal lit => exact (List.mem_filter.mp (List.mem_filter.mp hn).1).1
  | litType ty => exact ((c08_literal_type_mem ty t n).mp hn).1
  | ast k => exact (mem_findAll.mp hn).1

/-- whenever something was found, the reported line is the line of one of the found nodes, which is a
    node of the student's tree -/
theorem c08_line_is_one_of_them (q : Query) (t : Tree) (h : uses q t ≠ []) :
    ∃ n ∈ uses q t, reportedLine (uses q t) = n.line ∧ n ∈ walk t := by
  have hx := List.getLast_mem h
  exact ⟨_, hx, by rw [reportedLine, List.getLast?_eq_some_getLast h]; rfl, uses_subset_walk q t _ hx⟩

end Pedal.Static
