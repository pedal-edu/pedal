import PedalModel.StaticChecks
/-
Helper lemmas for C08 (traversal and list bookkeeping).  Property theorems are in PedalProofs/C08.lean.
-/
namespace Pedal.Static

mutual
theorem findAll_eq_filter (k : String) : ∀ t : Tree, findAll k t = (walk t).filter (isKind k)
  | .node kd f l c a cs => by
    rw [findAll, walk, List.filter_cons, findAllList_eq_filter k cs]
theorem findAllList_eq_filter (k : String) : ∀ ts : List Tree, findAllList k ts = (walkList ts).filter (isKind k)
  | [] => rfl
  | t :: ts => by
    rw [findAllList, walkList, List.filter_append, findAll_eq_filter k t, findAllList_eq_filter k ts]
end

theorem mem_findAll {k : String} {t n : Tree} : n ∈ findAll k t ↔ n ∈ walk t ∧ isKind k n = true := by
  rw [findAll_eq_filter, List.mem_filter]

theorem mem_walk_self (t : Tree) : t ∈ walk t := by
  cases t with
  | node k f l c a cs => simp [walk]

theorem isKind_plain (k : String) (t : Tree) (h1 : k ≠ "Num") (h2 : k ≠ "Str") (h3 : k ≠ "Bool") :
    isKind k t = decide (t.kind = k) := by
  simp [isKind, h1, h2, h3]

theorem length_flatMap_replicate (f : Tree → Nat) (l : List Tree) :
    (l.flatMap (fun n => List.replicate (f n) n)).length = (l.map f).sum := by
  induction l with
  | nil => rfl
  | cons a l ih => simp [List.flatMap_cons, ih]

theorem mem_flatMap_replicate (f : Tree → Nat) (l : List Tree) (n : Tree) :
    n ∈ l.flatMap (fun m => List.replicate (f m) m) ↔ n ∈ l ∧ f n ≠ 0 := by
  simp only [List.mem_flatMap, List.mem_replicate]
  constructor
  · rintro ⟨m, hm, hne, rfl⟩
    exact ⟨hm, hne⟩
  · rintro ⟨hm, hne⟩
    exact ⟨n, hm, hne, rfl⟩

/-- Two filters of a list that exclude one another make up, in another order, the filter by their disjunction. -/
theorem filter_append_filter_perm {α} (p q : α → Bool) (l : List α) (h : ∀ a, p a = true → q a = false) :
    (l.filter p ++ l.filter q).Perm (l.filter fun a => p a || q a) := by
  have := List.filter_append_perm p (l.filter fun a => p a || q a)
  rw [List.filter_filter, List.filter_filter] at this
  refine .trans (.of_eq ?_) this
  congr 2 <;> funext a <;> cases hp : p a <;> simp [h a, hp]

end Pedal.Static
