import PedalProofs.SandboxIOLemmas
/-
C15 — captured output and mocked input exactly record what student code did, in order.

Every theorem is about `Pedal.SandboxIO.run init ops` — the function the driver executes
(`handleHist`) — for EVERY history `ops : List Op`, by induction over the history with
the invariant `Inv` (SandboxIOLemmas).  `history ops` is the declarative reading of the
history: the list of what each execution wrote (`written`), all of them / those since the
last `clear_output`.
-/
namespace Pedal.SandboxIO
open Pedal.Gen.SandboxIO

/-- declarative reading of a history -/
def history (ops : List Op) : Ghost := (grun init Ghost.init ops).2

theorem inv_history (ops : List Op) : Inv (run init ops) (history ops) := by
  have h := inv_grun init Ghost.init ops inv_init
  rwa [grun_fst] at h

/-- Raw output = concatenation, in order, of what the executions since the last clear wrote. -/
theorem c15_raw_is_concat_since_clear (ops : List Op) :
    (run init ops).raw = (history ops).since.flatten :=
  (inv_history ops).raw

/-- Each execution's own record holds exactly its share (one record per execution, in order). -/
theorem c15_context_share (ops : List Op) :
    (run init ops).contexts.map Ctx.output = (history ops).all :=
  (inv_history ops).ctxs

/-- The line view = in-order concatenation, over the executions since the last clear that wrote
something, of `rstrip` then `split "\n"` then `rstrip` each. -/
theorem c15_lines_view (ops : List Op) :
    (run init ops).lines =
      ((history ops).since.filter fun w => !w.isEmpty).flatMap
        fun w => (splitNL (rstrip w)).map rstrip :=
  (inv_history ops).lines

/-- A silent execution adds nothing to the raw output or the line view. -/
theorem c15_silent_contributes_nothing (ops : List Op) (pre : Option InputArg) (tr : List Event)
    (src : InputSrc) (hsrc : execSrc (run init ops).inputs pre = some src)
    (hsilent : written src.isCallable tr = []) :
    (run init (ops ++ [.exec pre tr])).lines = (run init ops).lines ∧
    (run init (ops ++ [.exec pre tr])).raw = (run init ops).raw := by
  rw [run_snoc, step_exec hsrc]
  simp [hsilent]

/-- and a non-silent one adds exactly its entries, after everything already there -/
theorem c15_printing_appends (ops : List Op) (pre : Option InputArg) (tr : List Event)
    (src : InputSrc) (hsrc : execSrc (run init ops).inputs pre = some src)
    (hloud : written src.isCallable tr ≠ []) :
    (run init (ops ++ [.exec pre tr])).lines =
      (run init ops).lines ++ linesOf (written src.isCallable tr) := by
  rw [run_snoc, step_exec hsrc, if_neg (by simpa using hloud)]

/-- `clear_output` empties both views and nothing else does (between executions). -/
theorem c15_clear_output (ops : List Op) :
    (run init (ops ++ [.clearOutput])).raw = [] ∧ (run init (ops ++ [.clearOutput])).lines = [] := by
  rw [run_snoc]
  exact ⟨rfl, rfl⟩

/-! ### inputs -/

/-- One execution that starts with queue `q` and calls `input()` `n` times: the calls return the
first `n` queued values in order, then the fixed default; exactly the returned values leave
the queue. -/
theorem c15_exec_inputs_fifo (q : List Str) (tr : List Event) :
    (runEvents (.queue q) tr).got.map Prod.fst =
        q.take (nReads tr) ++ List.replicate (nReads tr - q.length) defaultStr ∧
    (runEvents (.queue q) tr).src = .queue (q.drop (nReads tr)) := by
  simp [runEvents_queue, Function.comp_def]

/-- The property's queue discipline as a specification over histories (no callables):
set replaces, queue appends, clear empties, an execution consumes one value per read. -/
def argItems : InputArg → List Str
  | .none => []
  | .one s => [s]
  | .many l => l
  | .callable _ => []

def specQueue (q : List Str) : Op → List Str
  | .exec none tr => q.drop (nReads tr)
  | .exec (some a) tr => (argItems a).drop (nReads tr)
  | .clearOutput => q
  | .setInput .none _ => []
  | .setInput a true => argItems a
  | .setInput a false => q ++ argItems a
  | .queueInput vs => q ++ vs
  | .clearInput => []

/-- what `input()` returns during an operation, per the property -/
def specReturned (q : List Str) : Op → Option (List Str)
  | .exec none tr => some (q.take (nReads tr) ++ List.replicate (nReads tr - q.length) defaultStr)
  | .exec (some a) tr =>
    some ((argItems a).take (nReads tr) ++ List.replicate (nReads tr - (argItems a).length) defaultStr)
  | _ => none

def argNoCallable : InputArg → Bool
  | .callable _ => false
  | _ => true

def Op.noCallable : Op → Bool
  | .exec (some a) _ => argNoCallable a
  | .setInput a _ => argNoCallable a
  | _ => true

theorem setInput_queue (q : List Str) (a : InputArg) (c : Bool) (h : argNoCallable a = true) :
    setInput (.queue q) a c = some (.queue (specQueue q (.setInput a c))) := by
  cases a with
  | callable f => cases h
  | _ => cases c <;> rfl

theorem step_exec_queue (s : St) (q : List Str) (pre : Option InputArg) (tr : List Event)
    (hq : s.inputs = .queue q) (hop : (Op.exec pre tr).noCallable = true) :
    (stepE s (.exec pre tr)).isSome = true ∧ (step s (.exec pre tr)).inputs = .queue (specQueue q (.exec pre tr)) ∧
    ((step s (.exec pre tr)).contexts.getLast?).map Ctx.inputs = specReturned q (.exec pre tr) := by
  -- the student code starts with the queue in force, or with the `inputs=` argument in its place
  have hsrc : execSrc s.inputs pre = some (.queue (match pre with | none => q | some a => argItems a)) := by
    cases pre with
    | none => rw [hq]; rfl
    | some a => rw [hq, execSrc, setInput_queue q a true hop]; cases a <;> rfl
  cases pre <;> simp [stepE, hsrc, step_exec hsrc, runEvents_queue, specQueue, specReturned, Function.comp_def]

/-- One step of a callable-free history from a queue state: the operation does not raise and the
queue afterwards is the specified one. -/
theorem step_queue (s : St) (q : List Str) (op : Op) (hq : s.inputs = .queue q)
    (hop : op.noCallable = true) :
    (stepE s op).isSome = true ∧ (step s op).inputs = .queue (specQueue q op) := by
  have hset : ∀ a c, argNoCallable a = true → (stepE s (.setInput a c)).isSome = true ∧
      (step s (.setInput a c)).inputs = .queue (specQueue q (.setInput a c)) := by
    intro a c ha
    simp [step, stepE, hq, setInput_queue q a c ha]
  cases op with
  | exec pre tr => exact ⟨(step_exec_queue s q pre tr hq hop).1, (step_exec_queue s q pre tr hq hop).2.1⟩
  | clearOutput => exact ⟨rfl, hq⟩
  | setInput a c => exact hset a c hop
  | queueInput vs => exact hset (.many vs) false rfl
  | clearInput => exact hset .none true rfl

theorem run_queue (ops : List Op) (h : ∀ op ∈ ops, op.noCallable = true) (s : St) (q : List Str)
    (hq : s.inputs = .queue q) : (run s ops).inputs = .queue (ops.foldl specQueue q) := by
  induction ops generalizing s q with
  | nil => exact hq
  | cons op ops ih =>
    exact ih (fun op' hop' => h op' (List.mem_cons_of_mem _ hop')) _ _
      (step_queue s q op hq (h op List.mem_cons_self)).2

/-- FIFO, each queued value consumed once, fixed default afterwards — over ALL callable-free
histories: after any such history the sandbox's queue is the specified queue (so nothing is
lost, duplicated or reordered by any interleaving of set/queue/clear operations and
executions), and no operation raised. -/
theorem c15_input_fifo_once_default (ops : List Op) (h : ∀ op ∈ ops, op.noCallable = true) :
    (run init ops).inputs = .queue (ops.foldl specQueue []) :=
  run_queue ops h init [] rfl

/-- …and every execution of such a history records, as its inputs, exactly what the property
says `input()` returned (the queue in force at that moment, FIFO, then the default). -/
theorem c15_input_record (ops : List Op) (pre : Option InputArg) (tr : List Event)
    (h : ∀ op ∈ ops ++ [.exec pre tr], op.noCallable = true) :
    ((run init (ops ++ [.exec pre tr])).contexts.getLast?).map Ctx.inputs =
      specReturned (ops.foldl specQueue []) (.exec pre tr) := by
  rw [run_snoc]
  exact (step_exec_queue _ _ pre tr
    (c15_input_fifo_once_default ops fun op hop => h op (List.mem_append_left _ hop)) (h _ (by simp))).2.2

/-- `run(inputs=a, before=B, code)` — which the harness sends as `[.exec (some a) B, .exec none tr]`, the
order `Sandbox.run` documents (the inputs are queued, then the `before` code is an execution of its own,
then the code) — after ANY callable-free history: the `before` code reads the first `nReads B` of the
GIVEN inputs (not what was queued earlier: the earlier queue is replaced), the code goes on where the
`before` code stopped, and what is left in the queue is what neither of them read. -/
theorem c15_run_with_before (ops : List Op) (a : InputArg) (B tr : List Event)
    (h : ∀ op ∈ ops, op.noCallable = true) (ha : argNoCallable a = true) :
    let s1 := run init (ops ++ [.exec (some a) B])
    let s2 := run init (ops ++ [.exec (some a) B, .exec none tr])
    (s1.contexts.getLast?).map Ctx.inputs =
        some ((argItems a).take (nReads B) ++ List.replicate (nReads B - (argItems a).length) defaultStr) ∧
    (s2.contexts.getLast?).map Ctx.inputs =
        some (((argItems a).drop (nReads B)).take (nReads tr) ++
          List.replicate (nReads tr - ((argItems a).drop (nReads B)).length) defaultStr) ∧
    s2.inputs = .queue ((argItems a).drop (nReads B + nReads tr)) := by
  intro s1 s2
  have e1 : s1 = step (run init ops) (.exec (some a) B) := run_snoc ..
  have e2 : s2 = step s1 (.exec none tr) := by
    simp [s1, s2, run, List.foldl_append]
  have h1 := step_exec_queue _ _ (some a) B (c15_input_fifo_once_default ops h) ha
  rw [← e1] at h1
  have h2 := step_exec_queue s1 _ none tr h1.2.1 rfl
  rw [← e2] at h2
  refine ⟨h1.2.2, h2.2.2, ?_⟩
  rw [h2.2.1]
  simp [specQueue, List.drop_drop]

/-- non-vacuity: three inputs, the `before` code reads one, the code reads one, one is left -/
example :
    (run init [.queueInput ["s".toList], .exec (some (.many ["X".toList, "Y".toList, "Z".toList])) [.read []],
      .exec none [.read []]]).inputs = .queue ["Z".toList] := by rfl

/-- with a callable installed, `input()` returns what the callable returns for the prompt and
the prompt is not echoed -/
theorem c15_callable_reads (f : Callable) (tr : List Event) :
    (runEvents (.callable f) tr).src = .callable f ∧
    (runEvents (.callable f) tr).buf = written true tr :=
  runEvents_callable f tr

/-- OBJECTS THAT OUTLIVE AN EXECUTION.  Replacing, anywhere in a history, calls of `input` through a
reference kept from an earlier execution (`ask = input`, a helper module imported earlier, a
generator that captured it) by calls through the current `input` changes nothing the sandbox
records: the whole state after the history is the same.  Hence every theorem above, stated over
ALL traces (kept reads included), says for kept reads exactly what it says for ordinary ones:
they are answered from the queue as it is at that moment, FIFO, once, then the default; their
prompts and values belong to the execution that made the call. -/
def Event.unkeep : Event → Event
  | .readKept p => .read p
  | e => e

def Op.unkeep : Op → Op
  | .exec pre tr => .exec pre (tr.map Event.unkeep)
  | op => op

theorem runEvents_unkeep (src : InputSrc) (tr : List Event) :
    runEvents src (tr.map Event.unkeep) = runEvents src tr := by
  induction tr generalizing src with
  | nil => rfl
  | cons e es ih =>
    cases e with
    | write t => simp [Event.unkeep, runEvents, ih]
    | read p | readKept p =>
      cases src with
      | callable f => simp [Event.unkeep, runEvents, keptIsLive_true, ih]
      | queue q => cases q <;> simp [Event.unkeep, runEvents, keptIsLive_true, popQueue_nil, popQueue_cons, ih]

theorem c15_kept_input_is_current_input (ops : List Op) :
    run init (ops.map Op.unkeep) = run init ops := by
  have hstep : (fun s op => step s (Op.unkeep op)) = step := by
    funext s op
    cases op <;> simp [Op.unkeep, step, stepE, runEvents_unkeep]
  rw [run, List.foldl_map, hstep]
  rfl

/-! ### non-vacuity / regression tests (evaluated, not theorems) -/

private def s (x : String) : Str := x.toList

-- a printing run, a silent call, a whitespace-only call, a clear, a prompt
#guard (run init [.exec none [.write (s "a\n")], .exec none []]).lines = [s "a"]
#guard (run init [.exec none [.write (s "a \n\nb  \n")], .exec none [.write (s "\n")]]).lines
        = [s "a", s "", s "b", s ""]
#guard (run init [.exec none [.write (s "a")], .clearOutput, .exec none [.read (s "p?")]]).lines = [s "p?"]
#guard (run init [.exec none [.write (s "a")], .exec none [.write (s "b")]]).raw = s "ab"
#guard (history [.exec none [.write (s "a")], .exec none [], .clearOutput, .exec none [.read (s "p")]]).since
        = [s "p\n"]
#guard ((run init [.setInput (.many [s "1", s "2"]) true, .queueInput [s "3"],
          .exec none [.read [], .read []], .exec none [.read [], .read []]]).contexts.map Ctx.inputs)
        = [[s "1", s "2"], [s "3", defaultStr]]
-- a kept `input` after the queue was REBOUND (clear_input) and refilled: the new values, FIFO, then the default
#guard ((run init [.setInput (.many [s "a", s "b"]) true, .exec none [.readKept (s "p")], .clearInput,
          .queueInput [s "c"], .exec none [.readKept (s "p"), .read [], .readKept []]]).contexts.map Ctx.inputs)
        = [[s "a"], [s "c", defaultStr, defaultStr]]
#guard (run init [.exec none [.readKept (s "p?")]]).raw = s "p?\n"
#guard rstrip (s "a \t\x0b\x0c\r\n\x1c\x1d\x1e\x1f\u0085  　") = s "a"
#guard rstrip (s " a​") = s " a​"
#guard splitNL (s "a\n\nb\n") = [s "a", s "", s "b", s ""]
#guard splitNL [] = [[]]
#guard linesOf (s "x\ty \r\n\x0c\n") = [s "x\ty"]
-- the premise of the callable-free theorems is satisfiable and the callable path is live
#guard ([Op.setInput (.one (s "1")) false, .exec (some (.many [s "2"])) [.read []]].all Op.noCallable)
#guard (stepE (run init [.setInput (.callable .prefixC) true]) (.queueInput [s "a"])).isNone

end Pedal.SandboxIO
