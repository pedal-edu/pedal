import PedalProofs.ProcStateLemmas
import PedalModel.Gen.ProcStateTables
/-
C13 — grading a submission is independent of what the process graded before it.

The statements are about `Pedal.ProcState.grade / runAll / World.clear / step`, the functions `driver_c13`
executes, interpreting `Pedal.Gen.ProcState.tables`, the tables harness/translate_procstate.py regenerates
from the ASTs of the tree under test on every run.

* `c13_tables_ok` is the obligation on the regenerated tables (by evaluation): it fails as soon as a field is
  added to `Report.__init__` but not put back by `Report.clear`, a method or another module starts mutating a
  field `clear` does not reset, `clear` gains a statement the translator does not understand, the override
  backups stop being per class, the pool table stops being emptied, the environment stops clearing first, …
* everything else is proved for ALL tables satisfying the obligation, all class hierarchies, all histories of
  gradings (any scripts: crashing at any point, overriding classes, suppressing, changing the formatter,
  mocking, splitting sections, resolving or not) by induction, and then instantiated.
-/
namespace Pedal.ProcState
open Pedal.FeedbackCore Pedal.Gen.ProcState

/-! ### the obligation on the tables of the tree under test -/

/-- **Table obligation.** -/
theorem c13_tables_ok : tableOk tables = true := by decide +kernel

/-- Every field `Report.__init__` creates is put back by `Report.clear` — with a statement that really
    restores its initial value — or is `class_hooks`. -/
theorem c13_every_init_field_is_reset : ∀ f, f ∈ tables.names → f ∈ exempt ∨ tables.resets f = true :=
  (tableFacts tables c13_tables_ok).initReset

/-! ### for all tables that satisfy the obligation -/

theorem every_mutated_field_is_cleared {T : Tables} (hT : tableOk T = true) :
    ∀ f, f ∈ allDirtied T → T.resets f = true := fun f hf =>
  have ⟨hn, he⟩ := (tableOk_clauses hT).1 f hf
  ((tableFacts T hT).initReset f hn).resolve_left he

/-- The invariant holds in every state a history of gradings can reach from a fresh process. -/
theorem history_inv {T : Tables} {s0 : Store} (hT : tableOk T = true) (hp : s0.Pristine) (h : List Grading) :
    Inv T s0 (runAll T (init s0) h) :=
  runAll_inv (tableFacts T hT) h (fresh_inv T (fresh_init s0 hp))

/-- **`clear` resets everything a grading can observe**: after `Report.clear()` in any reachable state every
    field is as `__init__` made it, no tool has data, the pool table is empty, every class dictionary is what
    it was when the process started and no class is registered as overridden. -/
theorem clear_resets_observable (T : Tables) (hT : tableOk T = true) (s0 : Store) (hp : s0.Pristine)
    (h : List Grading) : Fresh s0 ((runAll T (init s0) h).clear T) :=
  clear_fresh (tableFacts T hT) (history_inv hT hp h)

/-- **History independence**, general form: the same grading gives the same observations and the same outcome
    (normal end or the exception it crashed with) after any two histories. -/
theorem history_independent (T : Tables) (hT : tableOk T = true) (s0 : Store) (hp : s0.Pristine)
    (h h' : List Grading) (g : Grading) :
    (grade T (runAll T (init s0) h) g).result = (grade T (runAll T (init s0) h') g).result :=
  have ⟨ho, hh, _⟩ := grade_sim (tableFacts T hT) (history_inv hT hp h) (history_inv hT hp h') g
  Prod.ext ho hh

theorem runAll_append (T : Tables) (w : World) (h1 h2 : List Grading) :
    runAll T w (h1 ++ h2) = runAll T (runAll T w h1) h2 :=
  List.foldl_append

/-! ### for the tables of the tree under test -/

/-- Every field that any `Report` method or any other module of the package mutates is put back by `clear`. -/
theorem c13_every_mutated_field_is_cleared : ∀ f, f ∈ allDirtied tables → tables.resets f = true :=
  every_mutated_field_is_cleared c13_tables_ok

/-- **C13, `clear`.** -/
theorem c13_clear_resets_observable (s0 : Store) (hp : s0.Pristine) (h : List Grading) :
    Fresh s0 ((runAll tables (init s0) h).clear tables) :=
  clear_resets_observable tables c13_tables_ok s0 hp h

/-- **C13.** For every finite sequence `h` of gradings executed in one process and every further grading `g`:
    `g` produces what it produces when it is the first thing a fresh process does. -/
theorem c13_history_independent (s0 : Store) (hp : s0.Pristine) (h : List Grading) (g : Grading) :
    (grade tables (runAll tables (init s0) h) g).result = (grade tables (init s0) g).result :=
  history_independent tables c13_tables_ok s0 hp h [] g

/-- … at every position of the sequence: what precedes a grading does not matter. -/
theorem c13_position_independent (s0 : Store) (hp : s0.Pristine) (h1 h2 : List Grading) (g : Grading) :
    (grade tables (runAll tables (init s0) h1) g).result = (grade tables (runAll tables (init s0) h2) g).result :=
  history_independent tables c13_tables_ok s0 hp h1 h2 g

/-- **Grading the same pair twice gives identical results.** -/
theorem c13_idempotent (s0 : Store) (hp : s0.Pristine) (h : List Grading) (g : Grading) :
    let w := runAll tables (init s0) h
    (grade tables (grade tables w g).w g).result = (grade tables w g).result := by
  have := c13_position_independent s0 hp (h ++ [g]) h g
  rwa [runAll_append] at this

/-- The state a grading leaves behind is again one from which everything above holds (in particular after a
    script that crashed half-way through overriding classes). -/
theorem c13_invariant_kept (s0 : Store) (hp : s0.Pristine) (h : List Grading) :
    Inv tables s0 (runAll tables (init s0) h) :=
  history_inv c13_tables_ok hp h

/-! ### non-vacuity: the model really carries state across gradings, and a table that forgets a reset is caught -/

def exStore : Store :=
  { mro := fun c => if c = "type_error" then ["type_error", "runtime_error", "Feedback"]
                    else if c = "runtime_error" then ["runtime_error", "Feedback"] else [c]
    own := fun c a => if c = "runtime_error" ∧ a = "title" then some (.str "Runtime Error")
                      else if c = "Feedback" ∧ a = "title" then some .none else none
    backups := fun _ => none
    overridden := [] }

example : exStore.Pristine := ⟨fun _ => rfl, rfl⟩

/-- a script that overrides a base class and a subclass, suppresses, changes the formatter, uses pools,
    mocks a function, analyses a program that touches a builtin module — and then crashes -/
def nasty : Grading :=
  { sub := "s1", env := [.useTool "source", .tifa "import math; math.x = 1", .mutateTool "sandbox" "run"],
    script := [.override "runtime_error" [("title", .str "X")], .override "type_error" [("title", .str "Y")],
               .call "suppress" "runtime", .call "set_formatter" "Html", .call "set_pools" "2",
               .overrideForPool "gently" "A" [("title", .str "POOL-A")], .mutateTool "sandbox" "mock f",
               .call "add_hook" "h", .call "start_group" "section 1", .crash "ZeroDivisionError"] }

/-- a plain grading that looks at everything -/
def probe : Grading :=
  { sub := "s2", env := [.useTool "source", .tifa "print(1)", .useTool "sandbox"],
    script := [.feedback "type_error" ["title"] true "fb", .resolve [("runtime_error", "title"), ("type_error", "title")]] }

/-- the state the nasty grading leaves behind is NOT the fresh one … -/
example : ((grade tables (init exStore) nasty).w.fields "suppressions" ≠ []) ∧
    ((grade tables (init exStore) nasty).w.store.lookup "type_error" "title" = some (.str "Y")) ∧
    ((grade tables (init exStore) nasty).w.pools ≠ []) ∧ ((grade tables (init exStore) nasty).w.modules ≠ []) ∧
    (grade tables (init exStore) nasty).halt = some "ZeroDivisionError" := by decide +kernel

/-- … but the next grading cannot tell -/
example : (grade tables (grade tables (init exStore) nasty).w probe).result = (grade tables (init exStore) probe).result := by
  have := c13_history_independent exStore ⟨fun _ => rfl, rfl⟩ [nasty] probe
  rwa [runAll, List.foldl_cons, List.foldl_nil] at this

/-- The same tables with the `suppressions` reset removed from `clear`: the obligation fails … -/
def forgetful : Tables :=
  { tables with clearSteps := tables.clearSteps.filter (fun s =>
      match s with
      | .reset f _ => f != "suppressions"     -- however the tree under test writes that reset
      | .restoreEach _ => true) }

example : tableOk forgetful = false := by decide +kernel

/-- … and the model exhibits the history dependence the obligation rules out. -/
example : (grade forgetful (grade forgetful (init exStore) nasty).w probe).result
    ≠ (grade forgetful (init exStore) probe).result := by decide +kernel

/-- Pool overrides that do not register the class (the pinned tree): caught as well. -/
def unregisteredPools : Tables := { tables with poolOverrideRegisters := false, restoreClearsPools := false }

example : tableOk unregisteredPools = false :=
  Bool.eq_false_iff.mpr fun h => absurd (tableFacts _ h).poolsCleared (by decide)

example : (grade unregisteredPools (grade unregisteredPools (init exStore) nasty).w probe).result
    ≠ (grade unregisteredPools (init exStore) probe).result := by decide +kernel

end Pedal.ProcState
