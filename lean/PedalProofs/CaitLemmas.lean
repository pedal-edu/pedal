import PedalModel.CaitSpec
/-
Helper lemmas for C10 / C11 (CAIT tree matcher model): insertion-ordered dicts, AstMap merging and the
conflict-key invariant, monotonicity of the embedding checker, the dispatch of `shallow_match` and of the symbol
handler stated once as case principles (`shallowMatch_cases`, `symbolHandler_cases`; C10 and both halves of C11
go through them), and what `shallow_match` establishes (`ShallowGood`).
-/
namespace Pedal.Cait

/-! ### structural induction on trees -/

theorem T.induct' {P : T → Prop} (h : ∀ k f fl kids, (∀ c ∈ kids, P c) → P (T.mk k f fl kids)) : ∀ t, P t := by
  intro t
  refine T.rec (motive_1 := P) (motive_2 := fun ks => ∀ c ∈ ks, P c) ?_ ?_ ?_ t
  · intro k f fl kids ih; exact h k f fl kids ih
  · intro c hc; cases hc
  · intro hd tl ih1 ih2 c hc
    cases hc with
    | head => exact ih1
    | tail _ h' => exact ih2 c h'

/-! ### dicts -/

section Dict
variable {κ ν : Type} [DecidableEq κ]

def keysOf (d : List (κ × ν)) : List κ := d.map (·.1)

theorem dictGet_dictSet (k k' : κ) (v : ν) (d : List (κ × ν)) :
    dictGet k' (dictSet k v d) = if k' = k then some v else dictGet k' d := by
  induction d with
  | nil =>
    by_cases h : k = k'
    · subst h; simp [dictSet, dictGet]
    · have : ¬ k' = k := fun e => h e.symm
      simp [dictSet, dictGet, h, this]
  | cons hd tl ih =>
    obtain ⟨k1, v1⟩ := hd
    by_cases h1 : k1 = k
    · subst h1
      by_cases h2 : k1 = k'
      · subst h2; simp [dictSet, dictGet]
      · have : ¬ k' = k1 := fun e => h2 e.symm
        simp [dictSet, dictGet, h2, this]
    · by_cases h2 : k1 = k'
      · subst h2
        simp [dictSet, dictGet, h1]
      · simp [dictSet, dictGet, h1, h2, ih]

theorem dictGet_mem {k : κ} {v : ν} {d : List (κ × ν)} (h : dictGet k d = some v) : (k, v) ∈ d := by
  induction d with
  | nil => simp [dictGet] at h
  | cons hd tl ih =>
    obtain ⟨k1, v1⟩ := hd
    simp only [dictGet] at h
    by_cases h1 : k1 = k
    · simp only [if_pos h1] at h
      cases h; subst h1; exact List.mem_cons_self
    · simp only [if_neg h1] at h
      exact List.mem_cons_of_mem _ (ih h)

theorem dictGet_none_of_not_key {k : κ} {d : List (κ × ν)} (h : k ∉ keysOf d) : dictGet k d = none := by
  induction d with
  | nil => rfl
  | cons hd tl ih =>
    obtain ⟨k1, v1⟩ := hd
    simp only [keysOf, List.map_cons, List.mem_cons, not_or] at h
    simp only [dictGet]
    have : ¬ k1 = k := fun e => h.1 e.symm
    simp only [if_neg this]
    exact ih h.2

theorem dictGet_isSome_of_key {k : κ} {d : List (κ × ν)} (h : k ∈ keysOf d) : (dictGet k d).isSome := by
  induction d with
  | nil => simp [keysOf] at h
  | cons hd tl ih =>
    obtain ⟨k1, v1⟩ := hd
    simp only [dictGet]
    by_cases h1 : k1 = k
    · simp [h1]
    · simp only [if_neg h1]
      simp only [keysOf, List.map_cons, List.mem_cons] at h
      rcases h with h | h
      · exact absurd h.symm h1
      · exact ih h

theorem mem_dictSet {k : κ} {v : ν} {d : List (κ × ν)} {x : κ × ν} (h : x ∈ dictSet k v d) :
    x ∈ d ∨ x = (k, v) := by
  induction d with
  | nil => simp only [dictSet, List.mem_singleton] at h; exact Or.inr h
  | cons hd tl ih =>
    obtain ⟨k1, v1⟩ := hd
    simp only [dictSet] at h
    by_cases h1 : k1 = k
    · simp only [if_pos h1, List.mem_cons] at h
      rcases h with h | h
      · subst h1; exact Or.inr h
      · exact Or.inl (List.mem_cons_of_mem _ h)
    · simp only [if_neg h1, List.mem_cons] at h
      rcases h with h | h
      · exact Or.inl (by simp [h])
      · rcases ih h with h' | h'
        · exact Or.inl (List.mem_cons_of_mem _ h')
        · exact Or.inr h'

theorem keysOf_dictSet (k : κ) (v : ν) (d : List (κ × ν)) :
    keysOf (dictSet k v d) = if k ∈ keysOf d then keysOf d else keysOf d ++ [k] := by
  induction d with
  | nil => simp [dictSet, keysOf]
  | cons hd tl ih =>
    obtain ⟨k1, v1⟩ := hd
    by_cases h1 : k1 = k
    · subst h1; simp [dictSet, keysOf]
    · have hne : ¬ k = k1 := fun e => h1 e.symm
      have hk : keysOf (dictSet k v ((k1, v1) :: tl)) = k1 :: keysOf (dictSet k v tl) := by
        simp [dictSet, h1, keysOf]
      have hk2 : keysOf ((k1, v1) :: tl) = k1 :: keysOf tl := rfl
      rw [hk, ih, hk2]
      by_cases h2 : k ∈ keysOf tl
      · simp [h2]
      · simp [h2, hne]

theorem mem_dictUpdate {d e : List (κ × ν)} {x : κ × ν} (h : x ∈ dictUpdate d e) : x ∈ d ∨ x ∈ e := by
  induction e generalizing d with
  | nil => exact Or.inl h
  | cons hd tl ih =>
    simp only [dictUpdate, List.foldl_cons] at h
    rcases ih (d := dictSet hd.1 hd.2 d) h with h' | h'
    · rcases mem_dictSet h' with h'' | h''
      · exact Or.inl h''
      · exact Or.inr (by rw [h'']; exact List.mem_cons_self)
    · exact Or.inr (List.mem_cons_of_mem _ h')

theorem dictGet_dictUpdate_of_not_key {k : κ} {d e : List (κ × ν)} (h : k ∉ keysOf e) :
    dictGet k (dictUpdate d e) = dictGet k d := by
  induction e generalizing d with
  | nil => rfl
  | cons hd tl ih =>
    simp only [keysOf, List.map_cons, List.mem_cons, not_or] at h
    simp only [dictUpdate, List.foldl_cons]
    have := ih (d := dictSet hd.1 hd.2 d) h.2
    simp only [dictUpdate] at this
    rw [this, dictGet_dictSet, if_neg h.1]

theorem dictGet_dictUpdate_of_get {k : κ} {v : ν} {d e : List (κ × ν)} (hn : (keysOf e).Nodup)
    (h : dictGet k e = some v) : dictGet k (dictUpdate d e) = some v := by
  induction e generalizing d with
  | nil => simp [dictGet] at h
  | cons hd tl ih =>
    obtain ⟨k1, v1⟩ := hd
    simp only [keysOf, List.map_cons, List.nodup_cons] at hn
    simp only [dictUpdate, List.foldl_cons]
    simp only [dictGet] at h
    by_cases h1 : k1 = k
    · simp only [if_pos h1] at h
      cases h
      subst h1
      have := dictGet_dictUpdate_of_not_key (d := dictSet k1 v d) (e := tl) (k := k1) hn.1
      simp only [dictUpdate] at this
      rw [this, dictGet_dictSet, if_pos rfl]
    · simp only [if_neg h1] at h
      exact ih hn.2 h

/-- a lookup in `d.update(e)` comes from `e` or from `d` -/
theorem dictGet_dictUpdate_cases {k : κ} {v : ν} {d e : List (κ × ν)}
    (h : dictGet k (dictUpdate d e) = some v) : dictGet k d = some v ∨ (k, v) ∈ e := by
  induction e generalizing d with
  | nil => exact Or.inl h
  | cons hd tl ih =>
    simp only [dictUpdate, List.foldl_cons] at h
    rcases ih (d := dictSet hd.1 hd.2 d) h with h' | h'
    · rw [dictGet_dictSet] at h'
      by_cases hk : k = hd.1
      · simp only [if_pos hk] at h'
        cases h'
        exact Or.inr (by rw [hk]; exact List.mem_cons_self)
      · simp only [if_neg hk] at h'
        exact Or.inl h'
    · exact Or.inr (List.mem_cons_of_mem _ h')

theorem dictGet_isSome_dictUpdate {k : κ} {d e : List (κ × ν)}
    (h : (dictGet k d).isSome ∨ (dictGet k e).isSome) : (dictGet k (dictUpdate d e)).isSome := by
  induction e generalizing d with
  | nil => exact h.elim id (by simp [dictGet])
  | cons hd tl ih =>
    simp only [dictUpdate, List.foldl_cons]
    apply ih
    rw [dictGet_dictSet]
    by_cases hk : k = hd.1
    · simp [hk]
    · have hk' : ¬ hd.1 = k := fun e => hk e.symm
      simpa only [if_neg hk, dictGet, if_neg hk'] using h

theorem keysOf_dictUpdate_subset {d e : List (κ × ν)} {k : κ} (h : k ∈ keysOf (dictUpdate d e)) :
    k ∈ keysOf d ∨ k ∈ keysOf e := by
  simp only [keysOf, List.mem_map] at h ⊢
  obtain ⟨x, hx, rfl⟩ := h
  rcases mem_dictUpdate hx with h' | h'
  · exact Or.inl ⟨x, h', rfl⟩
  · exact Or.inr ⟨x, h', rfl⟩

theorem nodup_keysOf_dictSet {k : κ} {v : ν} {d : List (κ × ν)} (h : (keysOf d).Nodup) :
    (keysOf (dictSet k v d)).Nodup := by
  rw [keysOf_dictSet]
  by_cases hk : k ∈ keysOf d
  · simp only [if_pos hk]; exact h
  · simp only [if_neg hk]
    rw [List.nodup_append]
    refine ⟨h, by simp, ?_⟩
    intro a ha b hb
    simp only [List.mem_singleton] at hb
    subst hb
    intro e; subst e; exact hk ha

theorem nodup_keysOf_dictUpdate {d e : List (κ × ν)} (h : (keysOf d).Nodup) :
    (keysOf (dictUpdate d e)).Nodup := by
  induction e generalizing d with
  | nil => exact h
  | cons hd tl ih =>
    simp only [dictUpdate, List.foldl_cons]
    exact ih (nodup_keysOf_dictSet h)

end Dict

/-! ### AstMap -/

@[simp] theorem addBind_mappings (m : AstMap) (b : Bind) : (m.addBind b).mappings = m.mappings := rfl
@[simp] theorem addBind_exps (m : AstMap) (b : Bind) : (m.addBind b).exps = m.exps := rfl
@[simp] theorem addBind_binds (m : AstMap) (b : Bind) : (m.addBind b).binds = m.binds ++ [b] := rfl

theorem foldl_addBind (l : List Bind) (m : AstMap) :
    (l.foldl AstMap.addBind m).mappings = m.mappings ∧ (l.foldl AstMap.addBind m).exps = m.exps ∧
      (l.foldl AstMap.addBind m).binds = m.binds ++ l := by
  induction l generalizing m with
  | nil => simp
  | cons hd tl ih => simp [List.foldl_cons, ih]

@[simp] theorem merged_mappings (a b : AstMap) :
    (a.merged b).mappings = dictUpdate a.mappings b.mappings := by
  simp [AstMap.merged, foldl_addBind]

@[simp] theorem merged_exps (a b : AstMap) : (a.merged b).exps = dictUpdate a.exps b.exps := by
  simp [AstMap.merged, foldl_addBind]

@[simp] theorem merged_binds (a b : AstMap) : (a.merged b).binds = a.binds ++ b.binds := by
  simp [AstMap.merged, foldl_addBind]

/-- `conflict_keys` lists exactly the keys bound to two different identifiers -/
def ConfInv (m : AstMap) : Prop :=
  ∀ k, k ∈ m.conflicts ↔ ∃ x ∈ m.binds, ∃ y ∈ m.binds, x.key = k ∧ y.key = k ∧ x.id ≠ y.id

theorem mem_addBind_conflicts {m : AstMap} {b : Bind} {k : String} :
    k ∈ (m.addBind b).conflicts ↔
      k ∈ m.conflicts ∨ (k = b.key ∧ ∃ o ∈ m.binds, o.key = b.key ∧ o.id ≠ b.id) := by
  have hany : (m.binds ++ [b]).any (differs b) = true ↔ ∃ o ∈ m.binds, o.key = b.key ∧ o.id ≠ b.id := by
    simp [differs]
  simp only [AstMap.addBind]
  split
  · rename_i hc
    simp only [Bool.and_eq_true, hany] at hc
    rw [List.mem_append, List.mem_singleton]
    exact ⟨fun h => h.imp_right fun e => ⟨e, hc.2⟩, fun h => h.imp_right fun e => e.1⟩
  · rename_i hc
    simp only [Bool.and_eq_true, hany, Bool.not_eq_true', List.contains_eq_mem, decide_eq_false_iff_not,
      not_and] at hc
    exact ⟨Or.inl, fun h => h.elim id fun ⟨e, hd⟩ => e ▸ Decidable.byContradiction fun hn => hc hn hd⟩

theorem confInv_addBind {m : AstMap} (h : ConfInv m) (b : Bind) : ConfInv (m.addBind b) := by
  intro k
  rw [mem_addBind_conflicts, h k]
  simp only [addBind_binds, List.mem_append, List.mem_singleton]
  constructor
  · rintro (⟨x, hx, y, hy, h1, h2, h3⟩ | ⟨rfl, o, ho, h1, h2⟩)
    · exact ⟨x, Or.inl hx, y, Or.inl hy, h1, h2, h3⟩
    · exact ⟨o, Or.inl ho, b, Or.inr rfl, h1, rfl, h2⟩
  · rintro ⟨x, hx | rfl, y, hy | rfl, h1, h2, h3⟩
    · exact Or.inl ⟨x, hx, y, hy, h1, h2, h3⟩
    · exact Or.inr ⟨h2.symm, x, hx, h1.trans h2.symm, h3⟩
    · exact Or.inr ⟨h1.symm, y, hy, h2.trans h1.symm, fun e => h3 e.symm⟩
    · exact absurd rfl h3

theorem confInv_foldl {m : AstMap} (h : ConfInv m) (l : List Bind) : ConfInv (l.foldl AstMap.addBind m) := by
  induction l generalizing m with
  | nil => exact h
  | cons hd tl ih => exact ih (confInv_addBind h hd)

theorem confInv_of_no_binds {m : AstMap} (h1 : m.binds = []) (h2 : m.conflicts = []) : ConfInv m := by
  intro k
  simp [h1, h2]

theorem confInv_merged (a b : AstMap) : ConfInv (a.merged b) := by
  simp only [AstMap.merged]
  exact confInv_foldl (confInv_foldl (confInv_of_no_binds rfl rfl) _) _

theorem confInv_pairMap (pp sp : Path) : ConfInv (pairMap pp sp) := confInv_of_no_binds rfl rfl

theorem singleIdent_of_confInv {m : AstMap} (h : ConfInv m) (hc : m.hasConflicts = false) :
    singleIdent m = true := by
  simp only [singleIdent, List.all_eq_true]
  intro a ha b hb
  by_cases hk : a.key = b.key
  · by_cases hi : a.id = b.id
    · simp [hi]
    · have : a.key ∈ m.conflicts := (h a.key).2 ⟨a, ha, b, hb, rfl, hk.symm, hi⟩
      simp only [AstMap.hasConflicts, Bool.not_eq_false', List.isEmpty_iff] at hc
      rw [hc] at this; cases this
  · simp [hk]

/-! ### the embedding checker only grows with the map -/

/-- `m` answers every query `a` answers, the same way -/
structure Ext (a m : AstMap) : Prop where
  maps : ∀ k v, dictGet k a.mappings = some v → dictGet k m.mappings = some v
  exps : ∀ k, (dictGet k a.exps).isSome → (dictGet k m.exps).isSome
  binds : ∀ x ∈ a.binds, x ∈ m.binds

theorem Ext.refl (a : AstMap) : Ext a a := ⟨fun _ _ h => h, fun _ h => h, fun _ h => h⟩

theorem Ext.trans {a b c : AstMap} (h1 : Ext a b) (h2 : Ext b c) : Ext a c :=
  ⟨fun k v h => h2.maps k v (h1.maps k v h), fun k h => h2.exps k (h1.exps k h),
   fun x h => h2.binds x (h1.binds x h)⟩

theorem hasBind_mono {a m : AstMap} (h : Ext a m) {k x : String} (hb : hasBind a k x = true) :
    hasBind m k x = true := by
  simp only [hasBind, List.any_eq_true] at hb ⊢
  obtain ⟨b, hb1, hb2⟩ := hb
  exact ⟨b, h.binds b hb1, hb2⟩

theorem nodeOk_iff {m : AstMap} {p s : T} :
    nodeOk m p s = true ↔ p.kind = s.kind ∧ (contentEq none p s = true ∨ ∃ f, identField p.kind = some f ∧
      ((nameClass (p.strAttr f) = .var ∧ hasBind m (p.strAttr f) (s.strAttr f) = true) ∨
        nameClass (p.strAttr f) = .wild ∨ (contentEq (some f) p s = true ∧ p.strAttr f = s.strAttr f))) := by
  simp only [nodeOk, Bool.and_eq_true, decide_eq_true_eq]
  refine and_congr_right fun _ => ?_
  cases identField p.kind with
  | none => simp
  | some f =>
    simp only [Bool.or_eq_true, Bool.and_eq_true, decide_eq_true_eq, Option.some.injEq, exists_eq_left']
    constructor
    · rintro (((h | h) | h) | h)
      · exact Or.inr (Or.inl h)
      · exact Or.inr (Or.inr (Or.inl h))
      · exact Or.inl h
      · exact Or.inr (Or.inr (Or.inr h))
    · rintro (h | h | h | h)
      · exact Or.inl (Or.inr h)
      · exact Or.inl (Or.inl (Or.inl h))
      · exact Or.inl (Or.inl (Or.inr h))
      · exact Or.inr h

theorem nodeOk_mono {a m : AstMap} (h : Ext a m) {p s : T} (hn : nodeOk a p s = true) :
    nodeOk m p s = true := by
  rw [nodeOk_iff] at hn ⊢
  exact hn.imp_right fun h' => h'.imp_right fun ⟨f, hf, h'⟩ =>
    ⟨f, hf, h'.imp_left fun ⟨hv, hb⟩ => ⟨hv, hasBind_mono h hb⟩⟩

theorem embKids_cons {m : AstMap} {pp sp : Path} {i mj : Nat} {pc : T} {rest : List T} {s : T} {o : Bool}
    {used : List Nat} :
    embKids m pp i (pc :: rest) sp s o mj used = true ↔
      ∃ j sj, dictGet (pp ++ [i]) m.mappings = some (sp ++ [j]) ∧ s.kids[j]? = some sj ∧
        (if o = true then mj ≤ j else j ∉ used) ∧ embAt m (pp ++ [i]) pc (sp ++ [j]) sj = true ∧
        embKids m pp (i + 1) rest sp s o (j + 1) (j :: used) = true := by
  rw [embKids]
  constructor
  · intro h
    split at h
    · cases h
    · rename_i q hq
      split at h
      · cases h
      · rename_i j hj
        simp only [Bool.and_eq_true, decide_eq_true_eq] at h
        obtain ⟨⟨⟨h1, h2⟩, h3⟩, h4⟩ := h
        subst h1
        split at h3
        · rename_i sj hsj
          exact ⟨j, sj, hq, hsj, by cases o <;> simpa using h2, h3, h4⟩
        · cases h3
  · rintro ⟨j, sj, h1, h2, h3, h4, h5⟩
    simp only [h1, List.getLast?_append, List.getLast?_singleton, Option.some_or, h2, h4, h5, Bool.and_true,
      Bool.and_eq_true, decide_eq_true_eq, true_and]
    cases o <;> simpa using h3

theorem embKids_mono {a m : AstMap} (h : Ext a m) (kids : List T)
    (hIH : ∀ c ∈ kids, ∀ pp sp s, embAt a pp c sp s = true → embAt m pp c sp s = true)
    (pp sp : Path) (s : T) (o : Bool) :
    ∀ i mj used, embKids a pp i kids sp s o mj used = true → embKids m pp i kids sp s o mj used = true := by
  induction kids with
  | nil => intro i mj used _; rw [embKids]
  | cons pc rest ih =>
    intro i mj used hk
    obtain ⟨j, sj, h1, h2, h3, h4, h5⟩ := embKids_cons.1 hk
    exact embKids_cons.2 ⟨j, sj, h.maps _ _ h1, h2, h3, hIH pc List.mem_cons_self _ _ _ h4,
      ih (fun c hc => hIH c (List.mem_cons_of_mem _ hc)) _ _ _ h5⟩

theorem embAt_mono {a m : AstMap} (h : Ext a m) :
    ∀ p pp sp s, embAt a pp p sp s = true → embAt m pp p sp s = true := by
  intro p
  induction p using T.induct' with
  | h kind field flds kids ih =>
    intro pp sp s he
    rw [embAt] at he ⊢
    simp only [Bool.and_eq_true, decide_eq_true_eq] at he ⊢
    refine ⟨h.maps _ _ he.1, ?_⟩
    have h2 := he.2
    cases hr : role (T.mk kind field flds kids) with
    | wildcard => simp only []
    | expPh k => simp only [hr] at h2 ⊢; exact h.exps _ h2
    | wrapper =>
      simp only [hr] at h2 ⊢
      exact embKids_mono h kids ih pp sp s true 0 0 [] h2
    | concrete =>
      simp only [hr, Bool.and_eq_true, Bool.or_eq_true, decide_eq_true_eq] at h2 ⊢
      refine ⟨nodeOk_mono h h2.1, ?_⟩
      rcases h2.2 with h3 | h3
      · exact Or.inl h3
      · exact Or.inr (embKids_mono h kids ih pp sp s _ 0 0 [] h3)

theorem expSomewhereL_mono {a m : AstMap} (k : String) (v : Path) (kids : List T)
    (hIH : ∀ c ∈ kids, ∀ pp, expSomewhere a k v pp c = true → expSomewhere m k v pp c = true) (pp : Path) :
    ∀ i, expSomewhereL a k v pp i kids = true → expSomewhereL m k v pp i kids = true := by
  induction kids with
  | nil => intro i hh; rw [expSomewhereL] at hh; cases hh
  | cons t ts ih =>
    intro i hh
    rw [expSomewhereL] at hh ⊢
    simp only [Bool.or_eq_true] at hh ⊢
    rcases hh with hh | hh
    · exact Or.inl (hIH t List.mem_cons_self _ hh)
    · exact Or.inr (ih (fun c hc => hIH c (List.mem_cons_of_mem _ hc)) _ hh)

theorem expSomewhere_mono {a m : AstMap} (h : Ext a m) (k : String) (v : Path) :
    ∀ p pp, expSomewhere a k v pp p = true → expSomewhere m k v pp p = true := by
  intro p
  induction p using T.induct' with
  | h kind field flds kids ih =>
    intro pp hh
    rw [expSomewhere] at hh ⊢
    simp only [Bool.or_eq_true, Bool.and_eq_true, decide_eq_true_eq] at hh ⊢
    rcases hh with hh | hh
    · exact Or.inl ⟨hh.1, h.maps _ _ hh.2⟩
    · exact Or.inr (expSomewhereL_mono k v kids ih pp 0 hh)

/-! ### what `shallow_match_main` establishes -/

theorem zipAll_imp {α β : Type} {f g : α → β → Bool} (h : ∀ a b, f a b = true → g a b = true) :
    ∀ (l1 : List α) (l2 : List β), zipAll f l1 l2 = true → zipAll g l1 l2 = true := by
  intro l1
  induction l1 with
  | nil => intro l2 _; cases l2 <;> rfl
  | cons a as ih =>
    intro l2 hz
    cases l2 with
    | nil => rfl
    | cons b bs =>
      simp only [zipAll, Bool.and_eq_true] at hz ⊢
      exact ⟨h a b hz.1, ih bs hz.2⟩

theorem zipAll_itemOk_eq : ∀ (I S : List Item), zipAll itemOk I S = true → I.length = S.length →
    I.all Item.isPrim = true → S.all Item.isPrim = true → S = I := by
  intro I
  induction I with
  | nil => intro S _ hl _ _; cases S with
    | nil => rfl
    | cons _ _ => simp at hl
  | cons a as ih =>
    intro S hz hl hI hS
    cases S with
    | nil => simp at hl
    | cons b bs =>
      simp only [zipAll, Bool.and_eq_true] at hz
      simp only [List.all_cons, Bool.and_eq_true] at hI hS
      simp only [List.length_cons, Nat.add_right_cancel_iff] at hl
      have := ih bs hz.2 hl hI.2 hS.2
      subst this
      cases a with
      | node => simp [Item.isPrim] at hI
      | prim x =>
        cases b with
        | node => simp [Item.isPrim] at hS
        | prim y =>
          have : x = y := by simpa [itemOk] using hz.1
          subst this; rfl

theorem plainItems_some {v : FVal} {items : List Item} (h : plainItems v = some items) :
    v.items = items ∧ items ≠ [] ∧ items.all Item.isPrim = true ∧ v ≠ FVal.none := by
  cases v with
  | none => simp [plainItems] at h
  | one i =>
    cases i with
    | node => simp [plainItems] at h
    | prim x =>
      simp only [plainItems, Option.some.injEq] at h
      subst h
      simp [FVal.items, Item.isPrim]
  | many l =>
    simp only [plainItems] at h
    split at h
    · rename_i hc
      simp only [Option.some.injEq] at h
      subst h
      simp only [Bool.and_eq_true, Bool.not_eq_true', List.isEmpty_eq_false_iff] at hc
      exact ⟨rfl, hc.1, hc.2, by simp⟩
    · cases h

theorem lenGuard {I S : List Item}
    (h : (!I.isEmpty && decide (I.length ≠ S.length) && (I ++ S).all Item.isPrim) = false)
    (hne : I ≠ []) (hI : I.all Item.isPrim = true) (hS : S.all Item.isPrim = true) : I.length = S.length := by
  by_cases hl : I.length = S.length
  · exact hl
  · exfalso
    have h1 : I.isEmpty = false := by simpa using hne
    have h2 : (I ++ S).all Item.isPrim = true := by rw [List.all_append, hI, hS]; rfl
    rw [h1, h2] at h
    simp [hl] at h

theorem fieldOk_unfold {ig : List String} {fi fs : Fld} (hv : fi.val ≠ FVal.none) :
    fieldOk ig fi fs =
      ((fi.name = fs.name || ig.contains fi.name) &&
        (ig.contains fi.name ||
          (!(!fi.val.items.isEmpty && decide (fi.val.items.length ≠ fs.val.items.length) &&
              (fi.val.items ++ fs.val.items).all Item.isPrim) &&
            zipAll itemOk fi.val.items fs.val.items))) := by
  cases hval : fi.val with
  | none => exact absurd hval hv
  | one i => simp only [fieldOk, hval]
  | many l => simp only [fieldOk, hval]

theorem fieldOk_content {ig : List String} {skip : Option String}
    (hig : ∀ n, ig.contains n = true → structuralField n = true ∨ some n = skip) {fi fs : Fld}
    (h : fieldOk ig fi fs = true) : fieldContentOk skip fi fs = true := by
  simp only [fieldContentOk]
  cases hp : plainItems fi.val with
  | none => rfl
  | some items =>
    obtain ⟨h1, h2, h3, h4⟩ := plainItems_some hp
    simp only [Bool.or_eq_true, decide_eq_true_eq, Bool.and_eq_true, Bool.not_eq_true']
    rw [fieldOk_unfold h4] at h
    simp only [Bool.and_eq_true, Bool.or_eq_true, decide_eq_true_eq, Bool.not_eq_true'] at h
    by_cases hign : ig.contains fi.name = true
    · rcases hig _ hign with hs | hs
      · exact Or.inl (Or.inl hs)
      · exact Or.inl (Or.inr hs)
    · refine Or.inr ⟨?_, ?_⟩
      · rcases h.1 with h' | h'
        · exact h'
        · exact absurd h' hign
      · rcases h.2 with h' | h'
        · exact absurd h' hign
        · by_cases hS : fs.val.items.all Item.isPrim = true
          · right
            rw [h1] at h'
            have hlen := lenGuard h'.1 h2 h3 hS
            exact zipAll_itemOk_eq _ _ h'.2 hlen h3 hS
          · left; simpa using hS

theorem shallowMainB_spec {cm : Bool} {pf : String} {ig : List String} {skip : Option String} {p s : T}
    (hig : ∀ n, ig.contains n = true → structuralField n = true ∨ some n = skip)
    (h : shallowMainB cm pf ig p s = true) :
    p.kind = s.kind ∧ metasMatch cm pf s = true ∧ contentEq skip p s = true := by
  simp only [shallowMainB, Bool.and_eq_true, decide_eq_true_eq] at h
  obtain ⟨⟨⟨h1, h2⟩, h3⟩, h4⟩ := h
  refine ⟨h2, h3, ?_⟩
  simp only [contentEq, Bool.and_eq_true, decide_eq_true_eq]
  exact ⟨Nat.le_of_eq h1, zipAll_imp (fun a b hab => fieldOk_content hig hab) _ _ h4⟩

theorem shallowMain_some {cm : Bool} {pf : String} {ig : List String} {pp sp : Path} {p s : T} {b : AstMap}
    (h : shallowMain cm pf ig pp p sp s = some b) : b = pairMap pp sp ∧ shallowMainB cm pf ig p s = true := by
  simp only [shallowMain] at h
  split at h
  · rename_i hc; cases h; exact ⟨rfl, hc⟩
  · cases h

/-! ### roles, by the kind of the pattern node -/

theorem role_name {p : T} (hk : p.kind = "Name") :
    role p = match nameClass (p.strAttr "id") with
      | .wild => .wildcard
      | .exp => .expPh (p.strAttr "id")
      | _ => .concrete := by
  simp only [role, hk, show ("Name" : String) ≠ "Pass" from by decide, if_false, if_true]
  cases nameClass (p.strAttr "id") <;> rfl

theorem role_of_arg_wild {p : T} (hk : p.kind = "arg") (hc : nameClass (p.strAttr "arg") = .wild) :
    role p = .wildcard := by
  simp [role, hk, hc]

theorem role_module {p : T} (hk : p.kind = "Module") : role p = .wrapper := by
  simp [role, hk]

/-- a kind the pattern language gives no meaning of its own -/
theorem role_of_other {p : T} (h : p.kind ∉ ["Pass", "Name", "arg", "Expr", "Module"]) : role p = .concrete := by
  simp only [List.mem_cons, List.not_mem_nil, or_false, not_or] at h
  simp [role, h]

theorem role_not_exp_of_kind {p : T} (h1 : p.kind ≠ "Name") (h2 : p.kind ≠ "Expr") (k : String) :
    role p ≠ .expPh k := by
  simp only [role, h1, h2, if_false]
  split
  · simp
  · split
    · split <;> simp
    · split <;> simp

theorem role_stmt_ne_concrete {p : T} (hk : p.kind = "Pass" ∨ p.kind = "Expr") : role p ≠ .concrete := by
  rcases hk with hk | hk
  · simp [role, hk]
  · simp only [role, hk, show ("Expr" : String) ≠ "Pass" from by decide,
      show ("Expr" : String) ≠ "Name" from by decide, show ("Expr" : String) ≠ "arg" from by decide,
      if_false, if_true]
    split
    · split
      · split <;> simp
      · simp
    · simp

/-! ### the dispatch of `shallow_match` and of the symbol handler -/

def expMap (pp sp : Path) (name : String) : AstMap := { pairMap pp sp with exps := [(name, sp)] }

/-- `shallow_match` dispatches on the kind of the pattern node to one of five steps; `symbol` records what the
dispatch knows when it calls the symbol handler, `main` when it falls through to `shallow_match_main`. -/
theorem shallowMatch_cases {P : Option AstMap → Prop} {cm : Bool} {pf : String} {pp sp : Path} {p s : T}
    (module : p.kind = "Module" →
      P (if s.kind = "Module" || s.field = "body" then some (pairMap pp sp) else none))
    (symbol : ∀ idVal, (p.kind = "Name" ∧ idVal = "id") ∨ (p.kind = "arg" ∧ idVal = "arg") ∨
        (p.kind = "Attribute" ∧ idVal = "attr" ∧ s.kind = "Attribute" ∧ (pf = "func" → s.field = "func")) →
      P (symbolHandler cm pf idVal pp p sp s))
    (stmt : p.kind = "Pass" ∨ p.kind = "Expr" →
      P (if metasMatch cm pf s then some (pairMap pp sp) else none))
    (defn : ∀ tbl ig, p.kind = "FunctionDef" ∨ p.kind = "ClassDef" → ig = ["name", "args"] ∨ ig = ["name"] →
      P (shallowDef cm pf tbl ig pp p sp s))
    (main : identField p.kind = none ∨
        (p.kind = "Attribute" ∧ ¬(s.kind = "Attribute" ∧ (pf = "func" → s.field = "func"))) →
      P (shallowMain cm pf [] pp p sp s)) :
    P (shallowMatch cm pf pp p sp s) := by
  unfold shallowMatch
  by_cases h1 : p.kind = "Module"
  · rw [if_pos h1]; exact module h1
  rw [if_neg h1]
  by_cases h2 : p.kind = "arg"
  · rw [if_pos h2]; exact symbol _ (Or.inr (Or.inl ⟨h2, rfl⟩))
  rw [if_neg h2]
  by_cases h3 : p.kind = "Attribute"
  · rw [if_pos h3]
    by_cases hs : s.kind = "Attribute"
    · by_cases hpf : pf = "func"
      · by_cases hsf : s.field = "func"
        · simp only [hpf, hs, hsf, decide_true, Bool.and_self, if_true]
          exact hpf ▸ symbol _ (Or.inr (Or.inr ⟨h3, rfl, hs, fun _ => hsf⟩))
        · simp only [hpf, hs, hsf, decide_true, Bool.and_self, if_true, if_false]
          exact hpf ▸ main (Or.inr ⟨h3, fun h => hsf (h.2 hpf)⟩)
      · simp only [hpf, hs, decide_true, decide_false, Bool.false_and, Bool.false_eq_true, if_false, if_true]
        exact symbol _ (Or.inr (Or.inr ⟨h3, rfl, hs, fun h => absurd h hpf⟩))
    · simp only [hs, decide_false, Bool.and_false, Bool.false_eq_true, if_false]
      exact main (Or.inr ⟨h3, fun h => hs h.1⟩)
  rw [if_neg h3]
  by_cases h4 : p.kind = "Name"
  · rw [if_pos h4]; exact symbol _ (Or.inl ⟨h4, rfl⟩)
  rw [if_neg h4]
  by_cases h5 : p.kind = "Pass" ∨ p.kind = "Expr"
  · rw [if_pos (by simpa using h5)]; exact stmt h5
  rw [if_neg (by simpa using h5)]
  by_cases h6 : p.kind = "FunctionDef"
  · rw [if_pos h6]; exact defn _ _ (Or.inl h6) (Or.inl rfl)
  rw [if_neg h6]
  by_cases h7 : p.kind = "ClassDef"
  · rw [if_pos h7]; exact defn _ _ (Or.inr h7) (Or.inr rfl)
  rw [if_neg h7]
  exact main (Or.inl (by simp [identField, h2, h3, h4, h6, h7]))

theorem symbolHandler_cases {P : Option AstMap → Prop} {cm : Bool} {pf idVal : String} {pp sp : Path} {p s : T}
    (bind : nameClass (p.strAttr idVal) = .var → metasMatch cm pf s = true → s.kind = p.kind →
      ∀ x : Bind, x.key = p.strAttr idVal → x.id = s.strAttr idVal → P (some ((pairMap pp sp).addBind x)))
    (exp : nameClass (p.strAttr idVal) = .exp → metasMatch cm pf s = true → idVal = "id" →
      P (some (expMap pp sp (p.strAttr idVal))))
    (wild : nameClass (p.strAttr idVal) = .wild → metasMatch cm pf s = true → P (some (pairMap pp sp)))
    (main : (metasMatch cm pf s = true → (s.kind = p.kind → nameClass (p.strAttr idVal) ≠ .var) ∧
        (idVal = "id" → nameClass (p.strAttr idVal) ≠ .exp) ∧ nameClass (p.strAttr idVal) ≠ .wild) →
      P (shallowMain cm pf ["ctx"] pp p sp s)) :
    P (symbolHandler cm pf idVal pp p sp s) := by
  simp only [symbolHandler]
  cases hc : nameClass (p.strAttr idVal) with
  | var =>
    simp only
    by_cases hcond : metasMatch cm pf s = true ∧ s.kind = p.kind
    · rw [if_pos (by simpa using hcond)]
      split
      · exact bind hc hcond.1 hcond.2 ⟨_, _, _, _⟩ rfl rfl
      · exact bind hc hcond.1 hcond.2 ⟨_, _, _, _⟩ rfl rfl
    · rw [if_neg (by simpa using hcond)]
      exact main fun hm => ⟨fun hk _ => hcond ⟨hm, hk⟩, by simp [hc], by simp [hc]⟩
  | exp =>
    simp only
    by_cases hcond : metasMatch cm pf s = true ∧ idVal = "id"
    · rw [if_pos (by simpa using hcond)]
      exact exp hc hcond.1 hcond.2
    · rw [if_neg (by simpa using hcond)]
      exact main fun hm => ⟨by simp [hc], fun hid _ => hcond ⟨hm, hid⟩, by simp [hc]⟩
  | wild =>
    simp only
    by_cases hm : metasMatch cm pf s = true
    · rw [if_pos hm]; exact wild hc hm
    · rw [if_neg hm]; exact main fun h => absurd h hm
  | plain => exact main fun _ => ⟨by simp [hc], by simp [hc], by simp [hc]⟩

/-! ### what `shallow_match` establishes -/

/-- facts about a map returned by `shallow_match(ins, std)` -/
structure ShallowGood (b : AstMap) (cm : Bool) (pf : String) (pp : Path) (p : T) (sp : Path) (s : T) : Prop where
  maps : b.mappings = [(pp, sp)]
  inv : ConfInv b
  noconf : b.conflicts = []
  metas : p.kind = "Module" ∨ metasMatch cm pf s = true
  node : role p = .concrete → nodeOk b p s = true
  exps : (∀ n, role p ≠ .expPh n) → b.exps = []

theorem pairMap_addBind_conflicts (pp sp : Path) (x : Bind) : ((pairMap pp sp).addBind x).conflicts = [] := by
  simp [AstMap.addBind, pairMap, differs]

theorem hasBind_addBind_self (m : AstMap) (x : Bind) : hasBind (m.addBind x) x.key x.id = true := by
  simp [hasBind]

variable {cm : Bool} {pf : String} {pp sp : Path} {p s : T}

theorem shallowGood_pair (hm : p.kind = "Module" ∨ metasMatch cm pf s = true)
    (hn : role p = .concrete → nodeOk (pairMap pp sp) p s = true) : ShallowGood (pairMap pp sp) cm pf pp p sp s :=
  ⟨rfl, confInv_pairMap _ _, rfl, hm, hn, fun _ => rfl⟩

theorem shallowGood_bind (x : Bind) (hm : metasMatch cm pf s = true)
    (hn : nodeOk ((pairMap pp sp).addBind x) p s = true) :
    ShallowGood ((pairMap pp sp).addBind x) cm pf pp p sp s :=
  ⟨rfl, confInv_addBind (confInv_pairMap _ _) _, pairMap_addBind_conflicts _ _ _, Or.inr hm, fun _ => hn,
    fun _ => rfl⟩

theorem ctx_structural : ∀ n, ["ctx"].contains n = true → structuralField n = true ∨ some n = (none : Option String) := by
  intro n hn
  simp only [List.contains_eq_mem, List.mem_singleton, decide_eq_true_eq] at hn
  subst hn; left; rfl

theorem nil_structural (skip : Option String) :
    ∀ n, ([] : List String).contains n = true → structuralField n = true ∨ some n = skip := by
  intro n hn; simp at hn

theorem shallowMain_good {ig : List String} {b : AstMap}
    (hig : ∀ n, ig.contains n = true → structuralField n = true ∨ some n = (none : Option String))
    (h : shallowMain cm pf ig pp p sp s = some b) : ShallowGood b cm pf pp p sp s := by
  obtain ⟨rfl, hb⟩ := shallowMain_some h
  obtain ⟨h1, h2, h3⟩ := shallowMainB_spec hig hb
  exact shallowGood_pair (Or.inr h2) fun _ => nodeOk_iff.2 ⟨h1, Or.inl h3⟩

theorem identField_name {p : T} (h : p.kind = "Name") : identField p.kind = some "id" := by
  simp [identField, h]
theorem identField_arg {p : T} (h : p.kind = "arg") : identField p.kind = some "arg" := by
  simp [identField, h]
theorem identField_attr {p : T} (h : p.kind = "Attribute") : identField p.kind = some "attr" := by
  simp [identField, h]

theorem symbolHandler_good {idVal : String} {b : AstMap}
    (hk : (p.kind = "Name" ∧ idVal = "id") ∨ (p.kind = "arg" ∧ idVal = "arg") ∨
          (p.kind = "Attribute" ∧ idVal = "attr" ∧ s.kind = "Attribute"))
    (h : symbolHandler cm pf idVal pp p sp s = some b) : ShallowGood b cm pf pp p sp s := by
  have hf : identField p.kind = some idVal := by
    rcases hk with ⟨h1, rfl⟩ | ⟨h1, rfl⟩ | ⟨h1, rfl, _⟩
    · exact identField_name h1
    · exact identField_arg h1
    · exact identField_attr h1
  refine symbolHandler_cases (P := fun r => ∀ b, r = some b → ShallowGood b cm pf pp p sp s) ?_ ?_ ?_ ?_ b h
  · intro hc hm hkind x hx1 hx2 b hb
    cases hb
    refine shallowGood_bind x hm (nodeOk_iff.2 ⟨hkind.symm, Or.inr ⟨_, hf, Or.inl ⟨hc, ?_⟩⟩⟩)
    rw [← hx1, ← hx2]; exact hasBind_addBind_self _ _
  · intro hc hm hid b hb
    cases hb
    have hr : role p = .expPh (p.strAttr idVal) := by
      rcases hk with ⟨h1, rfl⟩ | ⟨_, rfl⟩ | ⟨_, rfl, _⟩
      · rw [role_name h1, hc]
      · exact absurd hid (by decide)
      · exact absurd hid (by decide)
    exact ⟨rfl, confInv_of_no_binds rfl rfl, rfl, Or.inr hm, fun h => (by rw [hr] at h; cases h),
      fun h => absurd hr (h _)⟩
  · intro hc hm b hb
    cases hb
    refine shallowGood_pair (Or.inr hm) fun hr => ?_
    rcases hk with ⟨h1, rfl⟩ | ⟨h1, rfl⟩ | ⟨h1, rfl, h3⟩
    · rw [role_name h1, hc] at hr; cases hr
    · rw [role_of_arg_wild h1 hc] at hr; cases hr
    · exact nodeOk_iff.2 ⟨by rw [h1, h3], Or.inr ⟨_, hf, Or.inr (Or.inl hc)⟩⟩
  · intro _ b hb
    exact shallowMain_good ctx_structural hb

theorem shallowDef_good {tbl : Tbl} {ig : List String} {b : AstMap}
    (hk : p.kind = "FunctionDef" ∨ p.kind = "ClassDef")
    (hig : ∀ n, ig.contains n = true → structuralField n = true ∨ some n = some "name")
    (h : shallowDef cm pf tbl ig pp p sp s = some b) : ShallowGood b cm pf pp p sp s := by
  have hf : identField p.kind = some "name" := by
    rcases hk with hk | hk <;> simp [identField, hk]
  simp only [shallowDef] at h
  cases hm : shallowMain cm pf ig pp p sp s with
  | none => simp [hm] at h
  | some m =>
    obtain ⟨rfl, hb⟩ := shallowMain_some hm
    obtain ⟨h1, h2, h3⟩ := shallowMainB_spec hig hb
    simp only [hm] at h
    split at h
    · cases hc : nameClass (p.strAttr "name") with
      | var =>
        simp only [hc] at h
        cases h
        exact shallowGood_bind _ h2 (nodeOk_iff.2 ⟨h1, Or.inr ⟨_, hf, Or.inl ⟨hc, hasBind_addBind_self _ _⟩⟩⟩)
      | wild =>
        simp only [hc] at h
        cases h
        exact shallowGood_pair (Or.inr h2) fun _ => nodeOk_iff.2 ⟨h1, Or.inr ⟨_, hf, Or.inr (Or.inl hc)⟩⟩
      | _ =>
        simp only [hc] at h
        split at h
        · rename_i hn; cases h
          exact shallowGood_pair (Or.inr h2) fun _ => nodeOk_iff.2 ⟨h1, Or.inr ⟨_, hf, Or.inr (Or.inr ⟨h3, hn⟩)⟩⟩
        · cases h
    · cases h

theorem shallowMatch_good {b : AstMap} (h : shallowMatch cm pf pp p sp s = some b) :
    ShallowGood b cm pf pp p sp s := by
  refine shallowMatch_cases (P := fun r => ∀ b, r = some b → ShallowGood b cm pf pp p sp s) ?_ ?_ ?_ ?_ ?_ b h
  · intro hk b hb
    split at hb
    · cases hb
      exact shallowGood_pair (Or.inl hk) fun hr => by rw [role_module hk] at hr; cases hr
    · cases hb
  · intro idVal hk b hb
    refine symbolHandler_good ?_ hb
    rcases hk with h | h | ⟨h1, h2, h3, _⟩
    · exact Or.inl h
    · exact Or.inr (Or.inl h)
    · exact Or.inr (Or.inr ⟨h1, h2, h3⟩)
  · intro hk b hb
    split at hb
    · rename_i hm
      cases hb
      exact shallowGood_pair (Or.inr hm) fun hr => absurd hr (role_stmt_ne_concrete hk)
    · cases hb
  · intro tbl ig hk hig b hb
    refine shallowDef_good hk ?_ hb
    intro n hn
    rcases hig with rfl | rfl
    · simp only [List.contains_eq_mem, List.mem_cons, List.mem_nil_iff, or_false, decide_eq_true_eq] at hn
      rcases hn with rfl | rfl
      · exact Or.inr rfl
      · exact Or.inl rfl
    · simp only [List.contains_eq_mem, List.mem_singleton, decide_eq_true_eq] at hn
      exact Or.inr (by rw [hn])
  · intro _ b hb
    exact shallowMain_good (nil_structural _) hb

end Pedal.Cait
