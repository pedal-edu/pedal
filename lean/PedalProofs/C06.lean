import PedalModel.SandboxEquiv
import PedalModel.Gen.SandboxEquivGen
import PedalProofs.SandboxEquivLemmas
/-
C06 — sandboxed execution is observationally equivalent to plain CPython execution.

What is proved here is about what the sandbox WRAPS AROUND CPython's execution of the student's code — the
execution itself (`exec(compile(code))` in the student namespace with a copied builtins table behaving like
running the file as `__main__`) is a parameter of the model and is tested differentially, not proved:

* `c06_io_equiv`: for every interaction tree and every queue that holds a reply for each input() made (and below
  MAXIMUM_INPUTS), the sandbox's input tracker and CPython's own input() give the same printed text apart from
  how the prompt is echoed, hand the program the same replies, leave the same queue and reach the same final
  state (globals + outcome are whatever the tree's leaf says).
* `c06_call_binding`: the function named in call() is applied to exactly the values the instructor passed
  (through the repr when it is a faithful literal, through a temporary otherwise).
* `c06_call_namespace`, `c06_call_inv`, `c06_calls_frame`: after call(), every key of the student namespace holds
  what it held before, except the target (the result) and the names every execution rewrites; temporaries are
  gone and shadowed globals are back; the invariant carries over any sequence of calls.
* `c06_student_globals_preserved`: an execution's set-up rewrites only `__builtins__`, `__name__` and the override names.

Full statements that are false on the code as it is, with the witness (open findings):
* `C06_io_Full` (no condition on the queue): an exhausted queue answers '0' where CPython raises EOFError.
* `C06_call_Full` (any function name): a student function named like an overridden builtin is replaced.
-/
namespace Pedal.SandboxEquiv
open Pedal.Gen.SandboxEquiv

/-! ## The generated configuration has the shape the theorems need (closed by evaluation on every run) -/

theorem gen_input_cfg : inputCfg.understood = true ∧ inputCfg.popFront = true ∧ inputCfg.records = true := by
  decide

theorem gen_call_cfg :
    callCfg.understood = true ∧ callCfg.checksLiteral = true ∧ callCfg.backsUp = true ∧ callCfg.purgeRestores = true ∧
    callCfg.purgeDeletes = true ∧ callCfg.purgeClears = true ∧ callCfg.assignsTarget = true ∧
    callCfg.purgesAfterCall = true := by
  decide

theorem gen_mock_cfg : mockCfg.understood = true ∧ mockCfg.setsMainName = true ∧ mockCfg.resetsBuiltins = true := by
  decide

/-! ## A. input / output -/

theorem sandboxRun_eq_plainRun (cfg : InputCfg) (hp : cfg.popFront = true) (hr : cfg.records = true) :
    ∀ (p : Prog) (q : List String) (n : Nat), sufficient cfg p q n = true → sandboxRun cfg p q n = plainRun p q := by
  intro p
  induction p with
  | done f => intro q n _; rfl
  | unexplored => intro q n _; rfl
  | out s k ih =>
    intro q n h
    simp only [sufficient] at h
    simp only [sandboxRun, plainRun, ih q n h]
  | inp pr k ih =>
    intro q n h
    cases q with
    | nil => simp [sufficient] at h
    | cons x q =>
      simp only [sufficient, Bool.and_eq_true, Bool.not_eq_true'] at h
      have ih' := ih (.value x) q (n + 1) h.2
      simp only [sandboxRun, plainRun, takeInput, hp, hr, if_true, h.1, Bool.false_eq_true, if_false, ih']

/-- The property's first sentence for the tree under test's input tracker: same printed text apart from the
prompt echo, same prompts in the same places, same replies consumed, same queue left, same final state. -/
theorem c06_io_equiv (p : Prog) (q : List String) (n : Nat) (h : sufficient inputCfg p q n = true) :
    let s := sandboxRun inputCfg p q n
    let r := plainRun p q
    printed s.chunks = printed r.chunks ∧ prompts s.chunks = prompts r.chunks ∧ s.consumed = r.consumed ∧
    s.rest = r.rest ∧ s.fin = r.fin := by
  have := sandboxRun_eq_plainRun inputCfg gen_input_cfg.2.1 gen_input_cfg.2.2 p q n h
  simp [this]

/-- The statement without the condition on the queue. -/
def C06_io_Full : Prop :=
  ∀ (p : Prog) (q : List String) (n : Nat), (sandboxRun inputCfg p q n).fin = (plainRun p q).fin

/-- `x = input()` with nothing queued: CPython raises EOFError inside the program (final state 1), the sandbox
answers its default reply and the program ends normally (final state 0). -/
def exhaustedWitness : Prog :=
  .inp "" fun r => match r with
    | .value _ => .done 0
    | .eof => .done 1
    | .tooMany => .done 2

theorem c06_io_exhausted_counterexample : ¬ C06_io_Full := by
  intro h
  have := h exhaustedWitness [] 0
  revert this
  decide

/-! ## C. what an execution rewrites -/

theorem c06_student_globals_preserved (mc : MockCfg) (ov : String → Nat) (data : NS) (k : Key)
    (h : reserved mc k = false) : NS.get? (startExecution mc ov data) k = NS.get? data k := by
  rw [startExecution_get?]
  apply afterSetup_of_none
  cases k with
  | temp => rfl
  | name s =>
    simp only [reserved, Bool.or_eq_false_iff] at h
    obtain ⟨⟨h1, h2⟩, h3⟩ := h
    have h3' : s ∉ mc.overrideNames := by simpa using h3
    simp [mockedValue, h1, h2, h3']

/-! ## B. call() -/

structure GoodCall (cc : CallCfg) : Prop where
  backsUp : cc.backsUp = true
  restores : cc.purgeRestores = true
  deletes : cc.purgeDeletes = true
  clears : cc.purgeClears = true
  assigns : cc.assignsTarget = true
  purges : cc.purgesAfterCall = true

theorem gen_good_call : GoodCall callCfg := ⟨rfl, rfl, rfl, rfl, rfl, rfl⟩

theorem map_fst_posKeys (args : List Arg) : ∀ i,
    (posKeys i args).map (·.1) = (List.range' i args.length).map (Key.temp false · "") := by
  induction args with
  | nil => intro i; rfl
  | cons a rest ih => intro i; simp [posKeys, List.range'_succ, ih (i + 1)]

theorem map_snd_posKeys (args : List Arg) : ∀ i, (posKeys i args).map (·.2) = args := by
  induction args with
  | nil => intro i; rfl
  | cons a rest ih => intro i; simp [posKeys, ih (i + 1)]

theorem length_posKeys (args : List Arg) : ∀ i, (posKeys i args).length = args.length := by
  intro i
  rw [← List.length_map (·.2), map_snd_posKeys]

theorem callKeys_temp (args : List Arg) (kwargs : List (String × Arg)) :
    ∀ k, k ∈ (posKeys 0 args ++ kwKeys kwargs).map (·.1) → k.isTemp = true := by
  simp only [List.map_append, map_fst_posKeys, kwKeys, List.map_map, List.mem_append, List.mem_map]
  rintro k (⟨j, _, rfl⟩ | ⟨e, _, rfl⟩) <;> rfl

theorem callKeys_nodup (args : List Arg) (kwargs : List (String × Arg)) (h : (kwargs.map (·.1)).Nodup) :
    ((posKeys 0 args ++ kwKeys kwargs).map (·.1)).Nodup := by
  have hkw : (kwKeys kwargs).map (·.1) = (kwargs.map (·.1)).map (Key.temp true 0 ·) := by
    simp [kwKeys]
  rw [List.map_append, map_fst_posKeys, hkw, List.nodup_append]
  refine ⟨List.Pairwise.map _ (fun i j hij => ?_) (List.nodup_range' 1), List.Pairwise.map _ (fun s t hst => ?_) h, ?_⟩
  · simpa using hij
  · simpa using hst
  · simp only [List.mem_map]
    rintro _ ⟨i, _, rfl⟩ _ ⟨s, _, rfl⟩ heq
    cases heq

theorem callItems_args (args : List Arg) (kwargs : List (String × Arg)) :
    (posKeys 0 args ++ kwKeys kwargs).map (·.2) = args ++ kwargs.map (·.2) := by
  simp [map_snd_posKeys, kwKeys]

theorem callData_get?_of_not_temp {cc : CallCfg} {mc : MockCfg} {ov : String → Nat} {st : St} {args : List Arg}
    {kwargs : List (String × Arg)} (k : Key) (hk : k.isTemp = false) :
    NS.get? (callData cc mc ov st args kwargs) k = NS.get? (startExecution mc ov st.data) k := by
  rw [callData, startExecution_get?, startExecution_get?, callPrepared, constructList_data_frame]
  intro hmem
  rw [callKeys_temp args kwargs k hmem] at hk
  cases hk

/-- The values each argument text of the generated call evaluates to, in the namespace the call runs in, are the
instructor's values: given that a faithful literal evaluates to its value in the student namespace (`hlit`, CPython)
and that a SandboxVariable names a global holding its value that no execution rewrites (`hvar`). -/
theorem c06_call_binding (cc : CallCfg) (mc : MockCfg) (ov : String → Nat) (E : Env) (st : St) (f : String)
    (args : List Arg) (kwargs : List (String × Arg)) (target : Option String)
    (hkw : (kwargs.map (·.1)).Nodup)
    (hsound : ∀ a, a ∈ args ++ kwargs.map (·.2) → ItemSound cc E (startExecution mc ov st.data) a) :
    (callStep cc mc ov E st f args kwargs target).passed = some (args.map (·.val) ++ kwargs.map (·.2.val)) := by
  show evalRefs E (callData cc mc ov st args kwargs) (callPrepared cc st args kwargs).1 = _
  rw [callPrepared, constructList_evalRefs cc E _ _ st (callKeys_nodup args kwargs hkw), callItems_args]
  · simp
  · rw [callItems_args]
    intro a ha
    refine ⟨fun n hn => ?_, (hsound a ha).2⟩
    rw [callData_get?_of_not_temp (.name n) rfl]
    exact (hsound a ha).1 n hn
  · intro k hk
    rw [callData, startExecution_get?, afterSetup_of_none (mockedValue_temp mc ov k (callKeys_temp args kwargs k hk))]
    rfl

theorem purge_get? {cc : CallCfg} (hg : GoodCall cc) {st0 st1 : St} (hm : Mid st0 st1) (data2 : NS) (k : Key) :
    NS.get? (purge cc { st1 with data := data2 }).data k =
      if k ∈ st1.temps then NS.get? st0.data k else NS.get? data2 k := by
  unfold purge
  simp only
  rw [purge_fold_get? cc hg.restores hg.deletes]
  split
  · exact hm.backup_of k ‹_›
  · rfl

theorem callPrepared_mid {cc : CallCfg} (hg : GoodCall cc) {st : St} (hinv : Inv st) (args : List Arg)
    {kwargs : List (String × Arg)} (hkw : (kwargs.map (·.1)).Nodup) :
    Mid st (callPrepared cc st args kwargs).2 := by
  apply constructList_mid cc st hinv hg.backsUp _ st (mid_refl st hinv) (callKeys_temp args kwargs)
    (callKeys_nodup args kwargs hkw)
  intro k _ hmem
  rw [hinv.temps_nil] at hmem
  cases hmem

/-- After call(): the target holds the result (when the call returned), every other key holds what it held
before the call, as far as the set-up of an execution leaves it alone — temporaries are gone, globals they
shadowed are back. -/
theorem c06_call_namespace (cc : CallCfg) (mc : MockCfg) (ov : String → Nat) (E : Env) (st : St) (f : String)
    (args : List Arg) (kwargs : List (String × Arg)) (target : Option String) (hg : GoodCall cc) (hinv : Inv st)
    (hkw : (kwargs.map (·.1)).Nodup) (k : Key) :
    NS.get? (callStep cc mc ov E st f args kwargs target).st.data k =
      match (callStep cc mc ov E st f args kwargs target).outcome, target with
      | .ret v, some t => if k = .name t then some v else afterSetup mc ov k (NS.get? st.data k)
      | _, _ => afterSetup mc ov k (NS.get? st.data k) := by
  have hm := callPrepared_mid hg hinv args hkw
  -- a temporary gets back what it held, and the set-up leaves it alone; any other key is set up from what it held
  have hrest : (if k ∈ (callPrepared cc st args kwargs).2.temps then NS.get? st.data k
      else NS.get? (callData cc mc ov st args kwargs) k) = afterSetup mc ov k (NS.get? st.data k) := by
    split
    · exact (afterSetup_of_none (mockedValue_temp mc ov k (hm.temps_temp k ‹_›)) _).symm
    · rw [callData, startExecution_get?, hm.data_frame k ‹_›]
  unfold callStep
  simp only [hg.purges, hg.assigns, if_true]
  generalize callOutcome cc mc ov E st f args kwargs = outcome
  rw [purge_get? hg hm]
  cases outcome with
  | raise c => cases target <;> exact hrest
  | ret v =>
    cases target with
    | none => exact hrest
    | some t =>
      show (if _ then _ else NS.get? (NS.set _ (.name t) v) k) = if k = .name t then some v else _
      rw [get?_set]
      by_cases hkt : k = .name t
      · rw [if_neg fun h => Key.ne_name_of_isTemp (hm.temps_temp k h) t hkt, if_pos hkt, if_pos hkt]
      · rw [if_neg hkt, if_neg hkt]
        exact hrest

theorem call_get?_of_ne_target {cc : CallCfg} {mc : MockCfg} {ov : String → Nat} {E : Env} {st : St} {f : String}
    {args : List Arg} {kwargs : List (String × Arg)} {target : Option String} (hg : GoodCall cc) (hinv : Inv st)
    (hkw : (kwargs.map (·.1)).Nodup) (k : Key) (hk : ∀ t, target = some t → k ≠ .name t) :
    NS.get? (callStep cc mc ov E st f args kwargs target).st.data k = afterSetup mc ov k (NS.get? st.data k) := by
  rw [c06_call_namespace cc mc ov E st f args kwargs target hg hinv hkw k]
  cases (callStep cc mc ov E st f args kwargs target).outcome with
  | raise c => cases target <;> rfl
  | ret v =>
    cases target with
    | none => rfl
    | some t => exact if_neg (hk t rfl)

/-- The invariant between executions survives a call. -/
theorem c06_call_inv (cc : CallCfg) (mc : MockCfg) (ov : String → Nat) (E : Env) (st : St) (f : String)
    (args : List Arg) (kwargs : List (String × Arg)) (target : Option String) (hg : GoodCall cc) (hinv : Inv st)
    (hkw : (kwargs.map (·.1)).Nodup) : Inv (callStep cc mc ov E st f args kwargs target).st := by
  have hm := callPrepared_mid hg hinv args hkw
  have htempval : ∀ k, k.isTemp = true →
      NS.get? (callStep cc mc ov E st f args kwargs target).st.data k = NS.get? st.data k := by
    intro k hk
    rw [call_get?_of_ne_target hg hinv hkw k fun t _ => Key.ne_name_of_isTemp hk t,
      afterSetup_of_none (mockedValue_temp mc ov k hk)]
  have hbk : (callStep cc mc ov E st f args kwargs target).st.backups = (callPrepared cc st args kwargs).2.backups := by
    unfold callStep; simp only [hg.purges, if_true, purge]
  have htm : (callStep cc mc ov E st f args kwargs target).st.temps = [] := by
    unfold callStep; simp only [hg.purges, if_true, purge, hg.clears]
  refine ⟨htm, fun k v hkv => ?_⟩
  rw [hbk] at hkv
  by_cases hk : k ∈ (callPrepared cc st args kwargs).2.temps
  · have ht := hm.temps_temp k hk
    rw [hm.backup_of k hk] at hkv
    exact ⟨ht, (htempval k ht).trans hkv⟩
  · rw [hm.backup_frame k hk] at hkv
    obtain ⟨ht, hv⟩ := hinv.backups_ok k v hkv
    exact ⟨ht, (htempval k ht).trans hv⟩

/-- The function the student defined is applied to the instructor's values — provided its name is not one the
set-up of an execution rewrites. -/
theorem c06_call_applies (cc : CallCfg) (mc : MockCfg) (ov : String → Nat) (E : Env) (st : St) (f : String)
    (args : List Arg) (kwargs : List (String × Arg)) (target : Option String) (fv : Nat)
    (hkw : (kwargs.map (·.1)).Nodup)
    (hsound : ∀ a, a ∈ args ++ kwargs.map (·.2) → ItemSound cc E (startExecution mc ov st.data) a)
    (hf : NS.get? st.data (.name f) = some fv) (hfree : mockedValue mc ov (.name f) = none) :
    (callStep cc mc ov E st f args kwargs target).outcome =
      E.apply fv (args.map (·.val)) (kwargs.map fun e => (e.1, e.2.val)) := by
  have hp : callPassed cc mc ov E st args kwargs = some (args.map (·.val) ++ kwargs.map (·.2.val)) :=
    c06_call_binding cc mc ov E st f args kwargs target hkw hsound
  have hfd : NS.get? (callData cc mc ov st args kwargs) (.name f) = some fv := by
    rw [callData_get?_of_not_temp (.name f) rfl, startExecution_get?, afterSetup_of_none hfree, hf]
  have hlen : args.length = (args.map (·.val)).length := by simp
  show callOutcome cc mc ov E st f args kwargs = _
  unfold callOutcome
  rw [hfd, hp]
  show E.apply fv (List.take args.length _) (List.zip _ (List.drop args.length _)) = _
  rw [hlen, List.take_left, List.drop_left, List.zip_map']

/-- The statement for any function name. -/
def C06_call_Full : Prop :=
  ∀ (E : Env) (ov : String → Nat) (st : St) (f : String) (fv : Nat), Inv st →
    NS.get? st.data (.name f) = some fv →
    (callStep callCfg mockCfg ov E st f [] [] none).outcome = E.apply fv [] []

/-- A student function called `compile` (value 7): the call applies the sandbox's replacement (value 9) instead. -/
theorem c06_override_shadow_counterexample : ¬ C06_call_Full := by
  intro h
  have := h ⟨fun _ => none, fun fv _ _ => .ret fv⟩ (fun _ => 9) ⟨[(.name "compile", 7)], [], []⟩ "compile" 7
    ⟨rfl, by intro k v hk; cases hk⟩ (by decide)
  revert this
  decide +kernel

/-! ## Sequences of calls -/

structure Call where
  f : String
  args : List Arg
  kwargs : List (String × Arg)
  target : Option String

def runCalls (cc : CallCfg) (mc : MockCfg) (ov : String → Nat) (E : Env) : St → List Call → St
  | st, [] => st
  | st, c :: cs => runCalls cc mc ov E (callStep cc mc ov E st c.f c.args c.kwargs c.target).st cs

/-- Any number of calls: a global that is neither a target nor a name executions rewrite keeps its value (and a
temporary's name is free again), and the invariant holds at the end. -/
theorem c06_calls_frame (cc : CallCfg) (mc : MockCfg) (ov : String → Nat) (E : Env) (hg : GoodCall cc) :
    ∀ (calls : List Call) (st : St), Inv st → (∀ c, c ∈ calls → (c.kwargs.map (·.1)).Nodup) →
      Inv (runCalls cc mc ov E st calls) ∧
      ∀ k, mockedValue mc ov k = none → (∀ c, c ∈ calls → c.target ≠ some (match k with | .name s => s | .temp .. => "")
          ∨ k.isTemp = true) →
        NS.get? (runCalls cc mc ov E st calls).data k = NS.get? st.data k := by
  intro calls
  induction calls with
  | nil => intro st hinv _; exact ⟨hinv, fun _ _ _ => rfl⟩
  | cons c rest ih =>
    intro st hinv hkw
    have hkw0 := hkw c List.mem_cons_self
    obtain ⟨hI, hF⟩ := ih _ (c06_call_inv cc mc ov E st c.f c.args c.kwargs c.target hg hinv hkw0)
      (fun c' hc' => hkw c' (List.mem_cons_of_mem _ hc'))
    refine ⟨hI, fun k hmv htgt => ?_⟩
    rw [runCalls, hF k hmv (fun c' hc' => htgt c' (List.mem_cons_of_mem _ hc')),
      call_get?_of_ne_target hg hinv hkw0 k, afterSetup_of_none hmv]
    intro t ht hk
    rcases htgt c List.mem_cons_self with h | h
    · exact h (hk ▸ ht)
    · exact Key.ne_name_of_isTemp h t hk

/-! ## Non-vacuity -/

-- three replies queued, two asked for: sufficient, and the observations coincide
example : sufficient inputCfg (.inp "a" fun _ => .out "x" (.inp "b" fun _ => .done 0)) ["1", "2", "3"] 0 = true := by
  decide
example : (sandboxRun inputCfg (.inp "a" fun _ => .out "x" (.inp "b" fun _ => .done 0)) ["1", "2", "3"] 0).rest = ["3"] := by
  decide
-- a long argument goes through a temporary that shadows a student global, which is back afterwards
example :
    let st : St := ⟨[(.temp false 0 "", 5), (.name "f", 6)], [], []⟩
    let a : Arg := ⟨8, "", 300, true, none⟩
    let r := callStep callCfg mockCfg (fun _ => 9) ⟨fun _ => none, fun _ vs _ => .ret (vs.headD 0)⟩ st "f" [a] [] (some "_")
    r.outcome = .ret 8 ∧ NS.get? r.st.data (.temp false 0 "") = some 5 ∧ NS.get? r.st.data (.name "_") = some 8 := by
  decide +kernel

end Pedal.SandboxEquiv
