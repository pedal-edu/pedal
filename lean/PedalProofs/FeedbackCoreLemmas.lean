import PedalModel.FeedbackCore
/-
Lemmas about the class-attribute store (override / restore / clear) used by C20 and C13.

Every operation is described through the four things later operations read: `own`, `mro`, `backupOf` and
`overridden`.  `orig` is the abstraction that makes the restore argument go: no operation changes it, and
`restoreCls` copies it back into `own`.
-/
namespace Pedal.FeedbackCore
namespace Store

/-- What `c.__dict__[a]` was before any override: the backed-up value if there is one, else the
    current one. -/
def orig (s : Store) (c a : String) : Option AVal :=
  match (s.backupOf c).lookup a with
  | some old => old
  | none => s.own c a

/-- The invariant every override/clear history keeps, relative to the starting store `s0`. -/
structure Inv (s0 s : Store) : Prop where
  mro : s.mro = s0.mro
  orig : ∀ c a, s.orig c a = s0.own c a
  reg : ∀ c, s.backupOf c ≠ [] → c ∈ s.overridden

theorem lookup_congr (s t : Store) (ho : s.own = t.own) (hm : s.mro = t.mro) (c a : String) :
    s.lookup c a = t.lookup c a := by
  unfold lookup; rw [ho, hm]

/-- `overridden_feedbacks.add(c)` on the list that stands for the set. -/
theorem mem_register {k c : String} {l : List String} :
    k ∈ (if c ∈ l then l else l ++ [c]) ↔ k ∈ l ∨ k = c := by
  split
  · exact ⟨.inl, fun h => h.elim id (· ▸ ‹c ∈ l›)⟩
  · simp

theorem backupOf_setBackups (m o ov) (s : Store) (c k : String) (v : List (String × Option AVal)) :
    (Store.mk m o (setBackups s.backups c (some v)) ov).backupOf k = if k = c then v else s.backupOf k := by
  by_cases h : k = c <;> simp [backupOf, setBackups, h]

theorem backupOf_setBackups_self (m o ov) (s : Store) (c : String) :
    (Store.mk m o (setBackups s.backups c (some (s.backupOf c))) ov).backupOf = s.backupOf := by
  funext k
  rw [backupOf_setBackups]
  split
  · subst k; rfl
  · rfl

theorem orig_of_backupOf_nil {s : Store} {c : String} (h : s.backupOf c = []) (a : String) :
    s.orig c a = s.own c a := by
  simp [orig, h]

theorem Inv.of_pristine {s0 s : Store} (ho : s.own = s0.own) (hm : s.mro = s0.mro) (hp : s.Pristine) : Inv s0 s :=
  ⟨hm, fun c a => (orig_of_backupOf_nil (hp.1 c) a).trans (ho ▸ rfl), fun c hc => absurd (hp.1 c) hc⟩

/-- One loop step of `override` keeps every original value, the MRO and the registration list, and
    touches no other class's backups. -/
theorem overrideOne_spec {s s' : Store} {c f : String} {v : AVal} (h : s.overrideOne c f v = .ok s') :
    s'.mro = s.mro ∧ s'.overridden = s.overridden ∧ (∀ k a, s'.orig k a = s.orig k a) ∧
    (∀ k, k ≠ c → s'.backupOf k = s.backupOf k) := by
  unfold overrideOne at h
  split at h
  · next old hl =>
    cases h
    refine ⟨rfl, rfl, fun k a => ?_, fun _ _ => rfl⟩
    by_cases hk : k = c ∧ a = f
    · obtain ⟨rfl, rfl⟩ := hk
      simp only [orig, backupOf] at hl ⊢
      rw [hl]
    · simp [orig, backupOf, setOwn, hk]
  · next hl =>
    split at h
    · cases h
    · cases h
      refine ⟨rfl, rfl, fun k a => ?_, fun k hk => ?_⟩
      · simp only [orig, backupOf_setBackups]
        by_cases hk : k = c
        · subst hk
          by_cases ha : a = f
          · subst ha
            simp [List.lookup_append, hl, List.lookup]
          · have hfa : (a == f) = false := by simpa using ha
            simp [List.lookup_append, List.lookup, hfa, ha, setOwn]
        · simp [hk, setOwn]
      · rw [backupOf_setBackups, if_neg hk]

/-- What every successful step keeps, the loop keeps (a failing step leaves what was done so far). -/
theorem overrideLoop_induction {P : Store → Prop} {c : String}
    (step : ∀ s f v s', P s → s.overrideOne c f v = .ok s' → P s') (fs : List (String × AVal)) :
    ∀ s, P s → P (s.overrideLoop c fs).1 := by
  induction fs with
  | nil => exact fun _ h => h
  | cons p rest ih =>
    intro s h
    unfold overrideLoop
    cases hs : s.overrideOne c p.1 p.2 with
    | ok s' => exact ih s' (step s _ _ s' h hs)
    | error e => exact h

/-- `override` keeps the invariant and registers the class, also when it fails half-way. -/
theorem override_inv {s0 s : Store} (c : String) (fs : List (String × AVal)) (h : Inv s0 s) :
    Inv s0 (s.override c fs).1 ∧ c ∈ (s.override c fs).1.overridden := by
  refine overrideLoop_induction (P := fun s => Inv s0 s ∧ c ∈ s.overridden) ?_ fs _
    ⟨⟨h.mro, ?_, ?_⟩, mem_register.mpr (.inr rfl)⟩
  · intro s f v s' ⟨hi, hc⟩ hs
    obtain ⟨m, o, g, b⟩ := overrideOne_spec hs
    refine ⟨⟨m.trans hi.mro, fun k a => (g k a).trans (hi.orig k a), fun k hk => ?_⟩, o ▸ hc⟩
    rw [o]
    by_cases hkc : k = c
    · exact hkc ▸ hc
    · exact hi.reg k (b k hkc ▸ hk)
  · intro k a
    simp only [orig, backupOf_setBackups_self]
    exact h.orig k a
  · intro k hk
    rw [backupOf_setBackups_self] at hk
    exact mem_register.mpr (.inl (h.reg k hk))

theorem restoreCls_mro (s : Store) (c : String) : (s.restoreCls c).mro = s.mro := by
  unfold restoreCls; split <;> rfl

theorem restoreCls_overridden (s : Store) (c : String) : (s.restoreCls c).overridden = s.overridden := by
  unfold restoreCls; split <;> rfl

/-- `_restore_overrides` puts the original values back into the class dictionary … -/
theorem restoreCls_own (s : Store) (c k a : String) :
    (s.restoreCls c).own k a = if k = c then s.orig c a else s.own k a := by
  unfold restoreCls orig backupOf
  split
  · next hb =>
    rw [hb]
    split
    · subst k; rfl
    · rfl
  · next b hb => rw [hb]; rfl

/-- … and empties the backups (a class without a backup dictionary has nothing to put back). -/
theorem restoreCls_backupOf (s : Store) (c k : String) :
    (s.restoreCls c).backupOf k = if k = c then [] else s.backupOf k := by
  unfold restoreCls
  split
  · next hb =>
    split
    · subst k; simp [backupOf, hb]
    · rfl
  · exact backupOf_setBackups ..

theorem restoreCls_orig (s : Store) (c k a : String) : (s.restoreCls c).orig k a = s.orig k a := by
  simp only [orig, restoreCls_backupOf, restoreCls_own]
  by_cases hk : k = c
  · subst hk; simp
  · simp [hk]

theorem foldl_restoreCls (order : List String) :
    ∀ (s : Store), let r := order.foldl restoreCls s
      r.mro = s.mro ∧ (∀ k a, r.orig k a = s.orig k a) ∧
      ∀ k, r.backupOf k = if k ∈ order then [] else s.backupOf k := by
  induction order with
  | nil => exact fun s => ⟨rfl, fun _ _ => rfl, fun _ => rfl⟩
  | cons c rest ih =>
    intro s
    obtain ⟨m, g, e⟩ := ih (s.restoreCls c)
    refine ⟨m.trans (restoreCls_mro s c), fun k a => (g k a).trans (restoreCls_orig s c k a), fun k => ?_⟩
    rw [List.foldl_cons, e, restoreCls_backupOf]
    by_cases hk : k = c <;> simp [hk]

/-- Clearing in ANY order that covers the registered classes puts every class dictionary back. -/
theorem clearIn_restores {s0 s : Store} (h : Inv s0 s) (order : List String)
    (hcover : ∀ c ∈ s.overridden, c ∈ order) :
    (s.clearIn order).own = s0.own ∧ (s.clearIn order).mro = s0.mro ∧ (s.clearIn order).Pristine := by
  obtain ⟨m, g, e⟩ := foldl_restoreCls order s
  have hempty : ∀ k, (s.clearIn order).backupOf k = [] := by
    intro k
    refine (e k).trans ?_
    split
    · rfl
    · exact Classical.byContradiction fun hk => ‹k ∉ order› (hcover k (h.reg k hk))
  refine ⟨?_, m.trans h.mro, hempty, rfl⟩
  funext k a
  exact (orig_of_backupOf_nil (hempty k) a).symm.trans ((g k a).trans (h.orig k a))

theorem clear_inv {s0 s : Store} (h : Inv s0 s) : Inv s0 s.clear :=
  have ⟨ho, hm, hp⟩ := clearIn_restores h s.overridden fun _ hc => hc
  .of_pristine ho hm hp

theorem runAll_inv (s0 : Store) (hp : s0.Pristine) (h : List Op) : Inv s0 (s0.runAll h) :=
  h.foldlRecOn step (.of_pristine rfl rfl hp) fun _ hs op _ =>
    match op with
    | .override c fs => (override_inv c fs hs).1
    | .clear => clear_inv hs

end Store
end Pedal.FeedbackCore
