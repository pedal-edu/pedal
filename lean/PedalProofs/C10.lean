import PedalProofs.CaitDeep
/-
C10 — every CAIT match is a genuine embedding of the pattern in the student's code.

`findMatches` is the model of `pedal.cait.cait_api.find_matches` that the driver executes and the
correspondence compares with the real code; `checkMatch` is the decidable reading of C10's first sentence
(PedalModel/CaitSpec.lean) — the very function the harness evaluates, through the driver, on every match the
REAL code returns.
-/
namespace Pedal.Cait

/-- A returned match (map + match_root) is an embedding of pattern `p` in program `s`. -/
def IsEmbedding (p s : T) (m : AstMap) (root : Option Path) : Prop := checkMatch p s m root = true

/-! ### any_node_match calls deep_find_match at the nodes of the program, and at all of them -/

theorem at?_append {t : T} {q1 q2 : Path} {t1 : T} (h : t.at? q1 = some t1) : t.at? (q1 ++ q2) = t1.at? q2 := by
  induction q1 generalizing t with
  | nil => simp only [T.at?] at h; cases h; rfl
  | cons i rest ih =>
    cases t with
    | mk k f fl kids =>
      simp only [List.cons_append, T.at?] at h ⊢
      cases hk : kids[i]? with
      | none => simp [hk] at h
      | some c => simp only [hk] at h ⊢; exact ih h

theorem mem_anyKids {pf : String} {pp : Path} {p : T} {sp : Path} {m : AstMap} : ∀ (kids : List T) (j : Nat),
    m ∈ anyKids pf pp p sp j kids ↔ ∃ i c, kids[i]? = some c ∧ m ∈ anyNode pf pp p (sp ++ [j + i]) c := by
  intro kids
  induction kids with
  | nil => intro j; simp [anyKids]
  | cons a as ih =>
    intro j
    rw [anyKids, List.mem_append, ih]
    constructor
    · rintro (h | ⟨i, c, hc, h⟩)
      · exact ⟨0, a, rfl, h⟩
      · exact ⟨i + 1, c, hc, by rwa [Nat.add_assoc, Nat.add_comm 1 i] at h⟩
    · rintro ⟨i, c, hc, h⟩
      cases i with
      | zero => exact Or.inl (by cases hc; exact h)
      | succ i => exact Or.inr ⟨i, c, hc, by rwa [Nat.add_assoc, Nat.add_comm 1 i]⟩

theorem mem_anyNode {pf : String} {pp : Path} {p : T} {m : AstMap} : ∀ (s : T) (sp : Path),
    m ∈ anyNode pf pp p sp s ↔ ∃ q sq, s.at? q = some sq ∧ m ∈ deep true pf pp p (sp ++ q) sq := by
  intro s
  induction s using T.induct' with
  | h k f fl kids ih =>
    intro sp
    rw [anyNode, List.mem_append, mem_anyKids]
    constructor
    · rintro (h | ⟨i, c, hc, h⟩)
      · exact ⟨[], _, rfl, by rwa [List.append_nil]⟩
      · obtain ⟨q, sq, h1, h2⟩ := (ih c (List.mem_of_getElem? hc) _).1 h
        exact ⟨i :: q, sq, by simp only [T.at?, hc]; exact h1, by simpa using h2⟩
    · rintro ⟨q, sq, h1, h2⟩
      cases q with
      | nil =>
        cases h1
        exact Or.inl (by rwa [List.append_nil] at h2)
      | cons i q =>
        simp only [T.at?] at h1
        cases hc : kids[i]? with
        | none => simp [hc] at h1
        | some c =>
          simp only [hc] at h1
          exact Or.inr ⟨i, c, hc, (ih c (List.mem_of_getElem? hc) _).2 ⟨q, sq, h1, by simpa using h2⟩⟩

/-- `find_matches` returns what `deep_find_match` of the trimmed pattern returns at the nodes of the trimmed
program -/
theorem mem_findMatches {p s : T} {mr : AstMap × Option Path} :
    mr ∈ findMatches p s ↔ ∃ q t, (trimRoot s).1.at? q = some t ∧
      ∃ m ∈ deep true (rootField p) (trimGo p []).2 (trimGo p []).1 ((trimRoot s).2 ++ q) t,
        mr = (m, dictGet (trimGo p []).2 m.mappings) := by
  simp only [findMatches, List.mem_map, mem_anyNode]
  constructor
  · rintro ⟨m, ⟨q, t, h1, h2⟩, rfl⟩
    exact ⟨q, t, h1, m, h2, rfl⟩
  · rintro ⟨q, t, h1, m, h2, rfl⟩
    exact ⟨m, ⟨q, t, h1, h2⟩, rfl⟩

/-! ### root trimming -/

theorem stripWrappers_eq_trimGo (t : T) (path : Path) : stripWrappers t path = trimGo t path := by
  fun_induction trimGo t path with
  | case1 k f fl c path hk ih => rw [stripWrappers, if_pos (by simpa [or_comm] using hk), ih]
  | case2 k f fl c path hk => rw [stripWrappers, if_neg (by simpa [or_comm] using hk)]
  | case3 t path h => rw [stripWrappers]; exact h

theorem trimGo_spec (t : T) (path : Path) : ∃ q, (trimGo t path).2 = path ++ q ∧
    t.at? q = some (trimGo t path).1 ∧ (opLeaves t = true → opLeaves (trimGo t path).1 = true) := by
  fun_induction trimGo t path with
  | case1 k f fl c path hk ih =>
    obtain ⟨q, h1, h2, h3⟩ := ih
    refine ⟨0 :: q, by rw [h1]; simp, ?_, fun ho => h3 (opLeaves_kids ho c (by simp))⟩
    simpa [T.at?] using h2
  | case2 k f fl c path hk => exact ⟨[], by simp, rfl, id⟩
  | case3 t path h => exact ⟨[], by simp, rfl, id⟩

/-! ### the checker does not look at the `field` of the two roots -/

theorem embAt_setField_p (m : AstMap) (pp sp : Path) (p s : T) (f : String) :
    embAt m pp (p.setField f) sp s = embAt m pp p sp s := by
  cases p with
  | mk k f0 fl ks => simp only [T.setField]; rw [embAt, embAt]; rfl

theorem expSomewhere_setField (m : AstMap) (k : String) (v pp : Path) (p : T) (f : String) :
    expSomewhere m k v pp (p.setField f) = expSomewhere m k v pp p := by
  cases p with
  | mk k f0 fl ks => simp only [T.setField]; rw [expSomewhere, expSomewhere]; rfl

theorem embKids_setField_s (m : AstMap) (pp sp : Path) (s : T) (f : String) (kids : List T) :
    ∀ i o mj used, embKids m pp i kids sp (s.setField f) o mj used = embKids m pp i kids sp s o mj used := by
  have hk : (s.setField f).kids = s.kids := by cases s; rfl
  induction kids with
  | nil => intro i o mj used; rw [embKids, embKids]
  | cons pc rest ih =>
    intro i o mj used
    rw [embKids, embKids]
    simp only [hk, ih]

theorem embAt_setField_s (m : AstMap) (pp sp : Path) (p s : T) (f : String) :
    embAt m pp p sp (s.setField f) = embAt m pp p sp s := by
  have hn : nodeOk m p (s.setField f) = nodeOk m p s := by cases s; rfl
  cases p with
  | mk k f0 fl ks =>
    rw [embAt, embAt]
    simp only [hn, embKids_setField_s]

theorem at?_setField_cons (t : T) (f : String) (i : Nat) (q : Path) :
    (t.setField f).at? (i :: q) = t.at? (i :: q) := by
  cases t; rfl

/-! ### C10 -/

/-- **C10, first sentence.**  Every match the model of `find_matches` returns — for every pattern whose
`Add`/`Mult` operator nodes are leaves (true of every `ast` tree) and every program — is an embedding in the
sense of `checkMatch`: partners of the same kind and equal plain content, children paired with children of
the partner in left-to-right order (operands of `+`/`*` possibly swapped), every `_v_` key bound to one
identifier, every `__e__` key bound to the partner of a placeholder of that name, `match_root` = the partner
of the (stripped) pattern root, which is a node of the program. -/
theorem c10_match_is_embedding (p s : T) (hp : opLeaves p = true) :
    ∀ mr ∈ findMatches p s, IsEmbedding p s mr.1 mr.2 := by
  intro mr hmr
  obtain ⟨q, sq, hq1, m, hq2, rfl⟩ := mem_findMatches.1 hmr
  -- the trimmed pattern
  obtain ⟨qp, _, _, hp3⟩ := trimGo_spec p []
  -- the trimmed program
  obtain ⟨qs, hs1, hs2, _⟩ := trimGo_spec s []
  simp only [List.nil_append] at hs1
  have hsp : (trimRoot s).2 = (trimGo s []).2 := by simp only [trimRoot]; split <;> rfl
  have hst : (trimRoot s).1 = (trimGo s []).1 ∨ (trimRoot s).1 = (trimGo s []).1.setField "none" := by
    simp only [trimRoot]; split
    · exact Or.inl rfl
    · exact Or.inr rfl
  have hg := deep_good _ (hp3 hp) _ _ _ _ _ _ hq2
  have hroot := embAt_root hg.emb
  -- the partner as a node of the whole program
  have hat : ∃ sq', s.at? ((trimRoot s).2 ++ q) = some sq' ∧
      embAt m (trimGo p []).2 (trimGo p []).1 ((trimRoot s).2 ++ q) sq' = true := by
    rw [hsp, hs1, at?_append hs2]
    rcases hst with e | e
    · rw [e] at hq1; exact ⟨sq, hq1, by rw [← hs1, ← hsp]; exact hg.emb⟩
    · rw [e] at hq1
      cases q with
      | nil =>
        simp only [T.at?, Option.some.injEq] at hq1
        refine ⟨(trimGo s []).1, rfl, ?_⟩
        have := hg.emb
        rw [← hq1, embAt_setField_s] at this
        rw [← hs1, ← hsp]; exact this
      | cons i rest =>
        rw [at?_setField_cons] at hq1
        exact ⟨sq, hq1, by rw [← hs1, ← hsp]; exact hg.emb⟩
  obtain ⟨sq', hat1, hat2⟩ := hat
  simp only [IsEmbedding, checkMatch, hroot, hat1, stripWrappers_eq_trimGo, Bool.and_eq_true]
  refine ⟨⟨⟨hat2, ?_⟩, singleIdent_of_confInv hg.inv (hasConflicts_of_noconf hg.noconf)⟩, by simp [hg.noconf]⟩
  simp only [expsOk, List.all_eq_true]
  intro kv hkv
  exact hg.exps kv hkv

/-! ### C10, second sentence: content that occurs nowhere yields no match -/

theorem couldMatch_of_nodeOk {m : AstMap} {q t : T} (h : nodeOk m q t = true) : couldMatch q t = true := by
  obtain ⟨hk, h⟩ := nodeOk_iff.1 h
  simp only [couldMatch, Bool.and_eq_true, decide_eq_true_eq]
  refine ⟨hk, ?_⟩
  rcases h with h | ⟨f, hf, h⟩
  · cases identField q.kind <;> simp [h]
  · rw [hf]
    rcases h with ⟨h, _⟩ | h | ⟨h1, h2⟩ <;> simp [*]

theorem self_mem_nodes (t : T) : t ∈ t.nodes := by
  cases t; rw [T.nodes]; exact List.mem_cons_self

theorem mem_nodesL {ts : List T} {c t : T} (hc : c ∈ ts) (ht : t ∈ c.nodes) : t ∈ nodesL ts := by
  induction ts with
  | nil => cases hc
  | cons a rest ih =>
    rw [nodesL, List.mem_append]
    cases hc with
    | head => exact Or.inl ht
    | tail _ h => exact Or.inr (ih h)

theorem nodes_of_kid {s c t : T} (hc : c ∈ s.kids) (ht : t ∈ c.nodes) : t ∈ s.nodes := by
  cases s with
  | mk k f fl kids =>
    rw [T.nodes]
    exact List.mem_cons_of_mem _ (mem_nodesL hc ht)

theorem nodes_of_at? : ∀ (q : Path) (s sq t : T), s.at? q = some sq → t ∈ sq.nodes → t ∈ s.nodes := by
  intro q
  induction q with
  | nil => intro s sq t h ht; simp only [T.at?, Option.some.injEq] at h; subst h; exact ht
  | cons i rest ih =>
    intro s sq t h ht
    cases s with
    | mk k f fl kids =>
      simp only [T.at?] at h
      cases hk : kids[i]? with
      | none => simp [hk] at h
      | some c =>
        simp only [hk] at h
        exact nodes_of_kid (s := T.mk k f fl kids) (List.mem_of_getElem? hk) (ih c sq t h ht)

theorem required_of_embKids (m : AstMap) (kids : List T)
    (hIH : ∀ c ∈ kids, ∀ pp sp s, embAt m pp c sp s = true → ∀ q ∈ required c, ∃ t ∈ s.nodes, couldMatch q t = true)
    (pp sp : Path) (s : T) (o : Bool) :
    ∀ i mj used, embKids m pp i kids sp s o mj used = true →
      ∀ q ∈ requiredL kids, ∃ t ∈ s.nodes, couldMatch q t = true := by
  induction kids with
  | nil => intro i mj used _ q hq; rw [requiredL] at hq; cases hq
  | cons pc rest ih =>
    intro i mj used hk q hq
    obtain ⟨j, sj, _, hs, _, h3, h4⟩ := embKids_cons.1 hk
    rw [requiredL, List.mem_append] at hq
    rcases hq with hq | hq
    · obtain ⟨t, ht, hc⟩ := hIH pc List.mem_cons_self _ _ _ h3 q hq
      exact ⟨t, nodes_of_kid (List.mem_of_getElem? hs) ht, hc⟩
    · exact ih (fun c hc => hIH c (List.mem_cons_of_mem _ hc)) _ _ _ h4 q hq

/-- an embedding pairs every required concrete pattern node with a node that could match it -/
theorem required_of_embAt (m : AstMap) : ∀ (p : T) (pp sp : Path) (s : T), embAt m pp p sp s = true →
    ∀ q ∈ required p, ∃ t ∈ s.nodes, couldMatch q t = true := by
  intro p
  induction p using T.induct' with
  | h k f fl kids ih =>
    intro pp sp s he q hq
    rw [embAt] at he
    rw [required] at hq
    simp only [Bool.and_eq_true] at he
    have h2 := he.2
    cases hr : role (T.mk k f fl kids) with
    | wildcard => simp [hr] at hq
    | expPh key => simp [hr] at hq
    | wrapper =>
      simp only [hr] at hq h2
      exact required_of_embKids m kids ih pp sp s true 0 0 [] h2 q hq
    | concrete =>
      simp only [hr, Bool.and_eq_true, Bool.or_eq_true, decide_eq_true_eq] at hq h2
      rw [List.mem_cons] at hq
      rcases hq with hq | hq
      · subst hq
        exact ⟨s, self_mem_nodes s, couldMatch_of_nodeOk h2.1⟩
      · rcases h2.2 with h3 | h3
        · simp [h3] at hq
        · by_cases hn : k = "Name"
          · simp [hn] at hq
          · simp only [hn, if_false] at hq
            exact required_of_embKids m kids ih pp sp s _ 0 0 [] h3 q hq

/-- **C10, second sentence.**  If some concrete node the pattern requires (its kind with its plain content)
could be paired with NO node of the program, `find_matches` returns nothing. -/
theorem c10_absent_content_no_match (p s : T) (hp : opLeaves p = true)
    (habsent : ∃ q ∈ required (stripWrappers p []).1, ∀ t ∈ s.nodes, couldMatch q t = false) :
    findMatches p s = [] := by
  apply List.eq_nil_iff_forall_not_mem.2
  intro mr hmr
  have hemb := c10_match_is_embedding p s hp mr hmr
  obtain ⟨q, hq, hno⟩ := habsent
  simp only [IsEmbedding, checkMatch] at hemb
  cases hroot : mr.2 with
  | none => simp [hroot] at hemb
  | some r =>
    simp only [hroot] at hemb
    cases hat : s.at? r with
    | none => simp [hat] at hemb
    | some sr =>
      simp only [hat, Bool.and_eq_true] at hemb
      obtain ⟨t, ht, hc⟩ := required_of_embAt _ _ _ _ _ hemb.1.1.1 q hq
      have := hno t (nodes_of_at? r s sr t hat ht)
      rw [this] at hc; cases hc

end Pedal.Cait
