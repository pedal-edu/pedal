import PedalProofs.CaitSelf
/-
C11 core, part 2: a pattern obtained from a fragment of the program by C11's generalisation steps matches that
fragment, with the expected bindings.

`genAt ρ ε pp p sp t` says: pattern node `p` (at `pp`) is a GENERALISATION of program node `t` (at `sp`):
  * sub-expression replaced by `___`                : a `Name` wildcard (or an expression statement made of it) may
                                                      stand where anything stands;
  * sub-expression replaced by `__e__`              : likewise, and `ε key` is the path of what it replaced;
  * identifiers consistently replaced by `_v_`      : an identifier-carrying node (Name, arg, Attribute, def) whose
                                                      identifier is a `_v_` placeholder stands for a node of the same
                                                      kind carrying the identifier `ρ key` — ONE function `ρ` for the
                                                      whole pattern, which is what "consistently" means;
  * sibling statements (any children) dropped       : the children of `p` generalise a subsequence of the children
                                                      of `t`, in order, each in the same AST field;
  * everything else is kept                         : same kind, same plain field values (a field of `p` may hold
                                                      fewer child nodes), same operator.
`ρ` and `ε` are the expected bindings; the theorem `gen_deep` returns a match whose bindings are exactly these.
-/
namespace Pedal.Cait

/-- one field of the pattern node against the field at the same position of the program node -/
def fldGen (skip : Option String) (fi fs : Fld) : Prop :=
  fi.name = fs.name ∧
    (some fi.name = skip ∨ fi.val = .none ∨ fi.val = fs.val ∨ fi.val = .one .node ∨
      ∃ li, fi.val = .many li ∧ ∀ x ∈ li, x = Item.node)

/-- field lists of equal length, related pointwise -/
def fldsGen (skip : Option String) : List Fld → List Fld → Prop
  | [], [] => True
  | a :: as, b :: bs => fldGen skip a b ∧ fldsGen skip as bs
  | _, _ => False

/-- the identifier of an identifier-carrying pattern node against the program node's -/
def identGen (ρ : String → String) (p t : T) : Prop :=
  match identField p.kind with
  | none => True
  | some f =>
    match nameClass (p.strAttr f) with
    | .var => ρ (p.strAttr f) = t.strAttr f
    | .wild => True
    | _ => p.strAttr f = t.strAttr f

/-- kind, plain content and identifier of one kept node -/
def nodeGen (ρ : String → String) (p t : T) : Prop :=
  t.kind = p.kind ∧ fldsGen (skipField p) p.flds t.flds ∧ identGen ρ p t

/-- the operator node of a `+` / `*` is kept as it is -/
def opGen (op sop : T) : Prop :=
  sop.kind = op.kind ∧ op.field = sop.field ∧ fldsGen none op.flds sop.flds

mutual
def genAt (ρ : String → String) (ε : String → Option Path) (pp : Path) (p : T) (sp : Path) (t : T) : Prop :=
  match p with
  | .mk k f fl kids =>
    match role (.mk k f fl kids) with
    | .expPh name => ε name = some sp
    | r =>
      if (k = "Name" ∨ k = "Expr") ∧ r = .wildcard then True
      else
        nodeGen ρ (.mk k f fl kids) t ∧
        if flexOp (.mk k f fl kids) = true then genFlex ρ ε pp kids sp t
        else genKids ρ ε (if k = "Name" then ["ctx"] else []) pp 0 kids sp 0 t.kids

/-- the three children of a `+` / `*` node: operands and operator stay where they are -/
def genFlex (ρ : String → String) (ε : String → Option Path) (pp : Path) (kids : List T) (sp : Path) (t : T) : Prop :=
  match kids with
  | [l, op, rr] =>
    ∃ sl sop sr, t.kids = [sl, sop, sr] ∧ opGen op sop ∧ l.field = sl.field ∧ rr.field = sr.field ∧
      genAt ρ ε (pp ++ [0]) l (sp ++ [0]) sl ∧ genAt ρ ε (pp ++ [2]) rr (sp ++ [2]) sr
  | _ => False

/-- the children `ps` of the pattern node (from index `i`) generalise, in order, a subsequence of the
remaining children `ts` of the program node (which start at index `j`) -/
def genKids (ρ : String → String) (ε : String → Option Path) (ig : List String) (pp : Path) (i : Nat)
    (ps : List T) (sp : Path) (j : Nat) (ts : List T) : Prop :=
  match ps with
  | [] => True
  | pc :: rest =>
    if ig.contains pc.field = true then genKids ρ ε ig pp (i + 1) rest sp j ts
    else ∃ d sj, ts[d]? = some sj ∧ pc.field = sj.field ∧ genAt ρ ε (pp ++ [i]) pc (sp ++ [j + d]) sj ∧
      genKids ρ ε ig pp (i + 1) rest sp (j + d + 1) (ts.drop (d + 1))
end

/-- all bindings are the expected ones -/
def BindsOk (ρ : String → String) (m : AstMap) : Prop := ∀ b ∈ m.binds, b.id = ρ b.key
def ExpsOk (ε : String → Option Path) (m : AstMap) : Prop := ∀ kv ∈ m.exps, ε kv.1 = some kv.2

structure Expected (ρ : String → String) (ε : String → Option Path) (m : AstMap) : Prop where
  binds : BindsOk ρ m
  exps : ExpsOk ε m

variable {ρ : String → String} {ε : String → Option Path}

theorem expected_pairMap (pp sp : Path) : Expected ρ ε (pairMap pp sp) :=
  ⟨fun b hb => by simp [pairMap] at hb, fun kv hkv => by simp [pairMap] at hkv⟩

theorem expected_expMap {pp sp : Path} {name : String} (h : ε name = some sp) :
    Expected ρ ε (expMap pp sp name) :=
  ⟨fun b hb => by simp [expMap, pairMap] at hb,
   fun kv hkv => by simp only [expMap, List.mem_singleton] at hkv; subst hkv; exact h⟩

theorem expected_addBind {m : AstMap} (h : Expected ρ ε m) {x : Bind} (hx : x.id = ρ x.key) :
    Expected ρ ε (m.addBind x) := by
  refine ⟨fun b hb => ?_, fun kv hkv => h.exps kv (by simpa using hkv)⟩
  rw [addBind_binds, List.mem_append] at hb
  rcases hb with hb | hb
  · exact h.binds b hb
  · simp only [List.mem_singleton] at hb; subst hb; exact hx

theorem expected_merged (a b : AstMap) (ha : Expected ρ ε a) (hb : Expected ρ ε b) :
    Expected ρ ε (a.merged b) ∧ (a.merged b).hasConflicts = false := by
  obtain ⟨hbinds, hc⟩ := merged_of_agree ha.binds hb.binds
  exact ⟨⟨hbinds, fun kv hkv => (mem_exps_merged hkv).elim (ha.exps kv) (hb.exps kv)⟩, hc⟩

/-! ### `genAt` unfolded, by the role of the pattern node -/

theorem genAt_exp {pp sp : Path} {p t : T} {n : String} (hr : role p = .expPh n) :
    genAt ρ ε pp p sp t = (ε n = some sp) := by
  cases p; rw [genAt.eq_def]; simp only [hr]

theorem genAt_eq {pp sp : Path} {p t : T} (hr : ∀ n, role p ≠ .expPh n) :
    genAt ρ ε pp p sp t =
      if (p.kind = "Name" ∨ p.kind = "Expr") ∧ role p = .wildcard then True
      else
        nodeGen ρ p t ∧
          if flexOp p = true then genFlex ρ ε pp p.kids sp t
          else genKids ρ ε (if p.kind = "Name" then ["ctx"] else []) pp 0 p.kids sp 0 t.kids := by
  cases p with
  | mk k f fl kids =>
    rw [genAt.eq_def]
    simp only [T.kind_mk, T.kids_mk]
    cases h : role (T.mk k f fl kids) with
    | expPh n => exact absurd h (hr n)
    | _ => rfl

theorem genFlex_inv {pp sp : Path} {kids : List T} {t : T} (h : genFlex ρ ε pp kids sp t) :
    ∃ l op rr sl sop sr, kids = [l, op, rr] ∧ t.kids = [sl, sop, sr] ∧ opGen op sop ∧ l.field = sl.field ∧
      rr.field = sr.field ∧ genAt ρ ε (pp ++ [0]) l (sp ++ [0]) sl ∧ genAt ρ ε (pp ++ [2]) rr (sp ++ [2]) sr := by
  rw [genFlex.eq_def] at h
  split at h
  · obtain ⟨sl, sop, sr, h⟩ := h
    exact ⟨_, _, _, sl, sop, sr, rfl, h⟩
  · exact h.elim

/-! ### shallow match of a kept node -/

theorem zipAll_node : ∀ (li S : List Item), (∀ x ∈ li, x = Item.node) → zipAll itemOk li S = true := by
  intro li
  induction li with
  | nil => intro S _; cases S <;> rfl
  | cons x rest ih =>
    intro S hall
    have hx := hall x List.mem_cons_self
    subst hx
    cases S with
    | nil => rfl
    | cons s ss =>
      simp only [zipAll, itemOk, Bool.true_and]
      exact ih ss (fun y hy => hall y (List.mem_cons_of_mem _ hy))

theorem guard_node : ∀ (li S : List Item), (∀ x ∈ li, x = Item.node) →
    (!li.isEmpty && decide (li.length ≠ S.length) && (li ++ S).all Item.isPrim) = false := by
  intro li S hall
  cases li with
  | nil => rfl
  | cons x rest =>
    have hx := hall x List.mem_cons_self
    subst hx
    simp [Item.isPrim]

theorem fieldOk_of_fldGen {ig : List String} {skip : Option String} {fi fs : Fld}
    (hs : ∀ n, skip = some n → ig.contains n = true) (h : fldGen skip fi fs) : fieldOk ig fi fs = true := by
  obtain ⟨hn, h⟩ := h
  by_cases hv : fi.val = FVal.none
  · simp [fieldOk, hv]
  · rw [fieldOk_unfold hv]
    rcases h with h | h | h | h | ⟨li, h, hall⟩
    · have := hs fi.name h.symm
      rw [this]; simp
    · exact absurd h hv
    · have : fi = fs := by cases fi; cases fs; simp_all
      subst this
      exact (fieldOk_unfold hv).symm.trans (fieldOk_self ig fi)
    · have hI : fi.val.items = [Item.node] := by rw [h]; rfl
      rw [hI, guard_node [Item.node] _ (by simp), zipAll_node [Item.node] _ (by simp)]
      simp [hn]
    · have hI : fi.val.items = li := by rw [h]; rfl
      rw [hI, guard_node li _ hall, zipAll_node li _ hall]
      simp [hn]

theorem zipAll_of_fldsGen {ig : List String} {skip : Option String}
    (hs : ∀ n, skip = some n → ig.contains n = true) :
    ∀ (l1 l2 : List Fld), fldsGen skip l1 l2 → zipAll (fieldOk ig) l1 l2 = true ∧ l1.length = l2.length := by
  intro l1
  induction l1 with
  | nil => intro l2 h; cases l2 with
    | nil => exact ⟨rfl, rfl⟩
    | cons _ _ => simp [fldsGen] at h
  | cons a as ih =>
    intro l2 h
    cases l2 with
    | nil => simp [fldsGen] at h
    | cons b bs =>
      simp only [fldsGen] at h
      obtain ⟨h1, h2⟩ := ih bs h.2
      exact ⟨by simp [zipAll, fieldOk_of_fldGen hs h.1, h1], by simp [h2]⟩

variable {cm : Bool} {pf : String} {pp sp : Path} {p t : T}

theorem shallowMain_gen {ig : List String} {skip : Option String}
    (hm : metasMatch cm pf t = true) (hk : t.kind = p.kind)
    (hf : fldsGen skip p.flds t.flds) (hs : ∀ n, skip = some n → ig.contains n = true) :
    shallowMain cm pf ig pp p sp t = some (pairMap pp sp) := by
  obtain ⟨h1, h2⟩ := zipAll_of_fldsGen (ig := ig) hs _ _ hf
  simp [shallowMain, shallowMainB, hm, hk, h1, h2]

/-! ### shallow match of a kept node: the dispatch -/

theorem symbolHandler_gen {idVal : String}
    (hm : metasMatch cm pf t = true) (hk : t.kind = p.kind) (hid : identField p.kind = some idVal)
    (hf : fldsGen (skipField p) p.flds t.flds) (hi : identGen ρ p t)
    (hne : idVal = "id" → nameClass (p.strAttr idVal) ≠ .exp) :
    ∃ b, symbolHandler cm pf idVal pp p sp t = some b ∧ Expected ρ ε b := by
  simp only [identGen, hid] at hi
  simp only [skipField, hid] at hf
  refine symbolHandler_cases (P := fun r => ∃ b, r = some b ∧ Expected ρ ε b) ?_ ?_ ?_ ?_
  · intro hc _ _ x hx1 hx2
    simp only [hc] at hi
    exact ⟨_, rfl, expected_addBind (expected_pairMap _ _) (by rw [hx1, hx2, hi])⟩
  · intro hc _ hidv
    exact absurd hc (hne hidv)
  · intro _ _
    exact ⟨_, rfl, expected_pairMap _ _⟩
  · intro h
    obtain ⟨h1, _, h3⟩ := h hm
    -- neither `_v_` nor `___`: no field was skipped
    have hf' : fldsGen none p.flds t.flds := by
      cases hc : nameClass (p.strAttr idVal) <;> simp only [hc] at hf
      · exact absurd hc (h1 hk)
      · exact hf
      · exact absurd hc h3
      · exact hf
    exact ⟨_, shallowMain_gen hm hk hf' (by intro n hn; cases hn), expected_pairMap _ _⟩

theorem skipField_mem {p : T} {f : String} (hid : identField p.kind = some f) :
    ∀ n, skipField p = some n → n = f := by
  intro n hn
  simp only [skipField, hid] at hn
  cases hc : nameClass (p.strAttr f) <;> simp only [hc] at hn <;> first | (cases hn; done) | (cases hn; rfl) | (injection hn with hn; exact hn.symm)

theorem skipField_none {p : T} (hid : identField p.kind = none) : skipField p = none := by
  simp [skipField, hid]

theorem shallowDef_gen {tbl : Tbl} {ig : List String}
    (hm : metasMatch cm pf t = true) (hk : t.kind = p.kind) (hid : identField p.kind = some "name")
    (hig : ig.contains "name" = true)
    (hf : fldsGen (skipField p) p.flds t.flds) (hi : identGen ρ p t) :
    ∃ b, shallowDef cm pf tbl ig pp p sp t = some b ∧ Expected ρ ε b := by
  have hmain := shallowMain_gen (cm := cm) (pf := pf) (ig := ig) (pp := pp) (sp := sp) hm hk hf
    (by intro n hn; rw [skipField_mem hid n hn]; exact hig)
  simp only [identGen, hid] at hi
  simp only [shallowDef, hmain, hm, hk, Bool.and_self, decide_true, if_true]
  cases hc : nameClass (p.strAttr "name") with
  | var =>
    simp only [hc] at hi
    exact ⟨_, rfl, expected_addBind (expected_pairMap _ _) hi.symm⟩
  | wild => exact ⟨_, rfl, expected_pairMap _ _⟩
  | _ =>
    simp only [hc] at hi
    simp only [hi, if_true]
    exact ⟨_, rfl, expected_pairMap _ _⟩

/-- `shallow_match` of a kept node succeeds with the expected bindings -/
theorem shallowMatch_gen (hm : metasMatch cm pf t = true) (hfunc : pf = "func" → t.field = "func")
    (hg : nodeGen ρ p t) (hne : p.kind = "Name" → nameClass (p.strAttr "id") ≠ .exp) :
    ∃ b, shallowMatch cm pf pp p sp t = some b ∧ Expected ρ ε b := by
  obtain ⟨hk, hf, hi⟩ := hg
  have hpair : ∃ b, some (pairMap pp sp) = some b ∧ Expected ρ ε b := ⟨_, rfl, expected_pairMap _ _⟩
  refine shallowMatch_cases (P := fun r => ∃ b, r = some b ∧ Expected ρ ε b) ?_ ?_ ?_ ?_ ?_
  · intro h1
    rw [if_pos (by simp [hk, h1])]
    exact hpair
  · intro idVal hsym
    rcases hsym with ⟨h1, rfl⟩ | ⟨h1, rfl⟩ | ⟨h1, rfl, _⟩
    · exact symbolHandler_gen hm hk (identField_name h1) hf hi (fun _ => hne h1)
    · exact symbolHandler_gen hm hk (identField_arg h1) hf hi (fun h => absurd h (by decide))
    · exact symbolHandler_gen hm hk (identField_attr h1) hf hi (fun h => absurd h (by decide))
  · intro _
    rw [if_pos hm]
    exact hpair
  · intro tbl ig h1 hig
    refine shallowDef_gen hm hk (by rcases h1 with h | h <;> simp [identField, h]) ?_ hf hi
    rcases hig with rfl | rfl <;> decide
  · intro h
    rcases h with h | ⟨h1, h2⟩
    · rw [skipField_none h] at hf
      exact ⟨_, shallowMain_gen hm hk hf (by intro n hn; cases hn), expected_pairMap _ _⟩
    · exact absurd ⟨hk.trans h1, hfunc⟩ h2

/-! ### the child loop -/

/-- the matcher finds the generalised fragment (with the expected bindings) wherever the metas allow it -/
def GenDeep (ρ : String → String) (ε : String → Option Path) (p : T) : Prop :=
  ∀ (cm : Bool) (pf : String) (pp sp : Path) (t : T), genAt ρ ε pp p sp t → metasMatch cm pf t = true →
    (pf = "func" → t.field = "func") → ∃ m ∈ deep cm pf pp p sp t, Expected ρ ε m

theorem GenDeep.kid {c sj : T} (h : GenDeep ρ ε c) (cm : Bool) {pp sp : Path} (hf : c.field = sj.field)
    (hg : genAt ρ ε pp c sp sj) : ∃ m ∈ deep cm c.field pp c sp sj, Expected ρ ε m :=
  h cm c.field pp sp sj hg (hf ▸ metasMatch_same cm sj) (fun h => hf ▸ h)

theorem deepKids_gen (cm : Bool) (ig : List String) (pp sp : Path) (s : T) (rest : List T)
    (hIH : ∀ c ∈ rest, GenDeep ρ ε c) :
    ∀ (i j : Nat) (st : List (AstMap × Nat)) (y : Nat),
      genKids ρ ε ig pp i rest sp j (s.kids.drop j) → Ready (Expected ρ ε) st y j →
      ∃ m ∈ deepKids cm ig pp i rest sp s st y, Expected ρ ε m := by
  induction rest with
  | nil => intro i j st y _ hst; exact deepKids_nil hst
  | cons pc rest ih =>
    intro i j st y hg hst
    have ih' := ih (fun c hc => hIH c (List.mem_cons_of_mem _ hc))
    rw [genKids] at hg
    by_cases hign : ig.contains pc.field = true
    · rw [deepKids, if_pos hign]
      rw [if_pos hign] at hg
      exact ih' (i + 1) j st y hg hst
    · rw [if_neg hign] at hg
      obtain ⟨d, sj, hts, hfld, hgen, hrest⟩ := hg
      rw [List.getElem?_drop] at hts
      obtain ⟨r, hr, hre⟩ := (hIH pc List.mem_cons_self).kid cm hfld hgen
      obtain ⟨st', y', e, hst'⟩ := deepKids_step (rest := rest) expected_merged hign
        (hst.mono (Nat.le_add_right j d)) hts hr hre
      rw [e]
      refine ih' (i + 1) (j + d + 1) st' y' ?_ hst'
      rw [List.drop_drop] at hrest
      exact hrest

theorem opGen_shallow {pp sp : Path} {op sop : T} (h : opGen op sop) (hk : op.kind = "Add" ∨ op.kind = "Mult") :
    shallowMatch true op.field pp op sp sop = some (pairMap pp sp) := by
  obtain ⟨h1, h2, h3⟩ := h
  have hm : metasMatch true op.field sop = true := by rw [h2]; exact metasMatch_same true sop
  have hmain := shallowMain_gen (cm := true) (pf := op.field) (ig := []) (pp := pp) (sp := sp) hm h1 h3
    (by intro n hn; cases hn)
  rcases hk with hk | hk <;> simp only [shallowMatch, hk] <;> simpa using hmain

/-! ### the main induction -/

/-- **Core of C11 (generalisation)**: the matcher finds every generalised fragment, with the expected bindings. -/
theorem gen_deep : ∀ (p : T), GenDeep ρ ε p := by
  intro p
  induction p using T.induct' with
  | h k f fl kids ih =>
    intro cm pf pp sp t hg hm hfunc
    cases hpre : deepPre cm pf pp (T.mk k f fl kids) sp t with
    | done r =>
      -- `___` stands for anything; `__e__` for what `ε` says
      rw [deep_done hpre]
      rcases deepPre_done hpre with ⟨h, _⟩ | ⟨_, ⟨rfl, _⟩ | ⟨n, rfl, hr⟩⟩
      · rw [hm] at h; cases h
      · exact ⟨_, List.mem_singleton_self _, expected_pairMap _ _⟩
      · rw [genAt_exp hr] at hg
        exact ⟨_, List.mem_singleton_self _, expected_expMap hg⟩
    | generic ig =>
      obtain ⟨hig, hfl, hrole⟩ := deepPre_generic hpre
      obtain ⟨hne, hnw⟩ := hrole hm
      rw [genAt_eq hne, if_neg (fun h => hnw h.1 h.2), hfl] at hg
      obtain ⟨hnode, hkids⟩ := hg
      obtain ⟨b, hb, hbe⟩ := shallowMatch_gen (ε := ε) (pp := pp) (sp := sp) hm hfunc hnode
        (fun hk hc => hne _ (by rw [role_name hk, hc]))
      rw [deep_generic hpre]
      simp only [hb]
      exact deepKids_gen cm ig pp sp t kids ih 0 0 [(b, 0)] 0 (hig ▸ hkids) (Ready.init hbe)
    | binflex =>
      obtain ⟨hkind, hfl⟩ := deepPre_binflex hpre
      have hrole : role (T.mk k f fl kids) = .concrete := role_of_other (by rw [hkind]; decide)
      rw [genAt_eq (fun n h => by rw [hrole] at h; cases h), if_neg (fun h => by rw [hrole] at h; cases h.2),
        hfl] at hg
      obtain ⟨hnode, hflex⟩ := hg
      obtain ⟨l, op, rr, sl, sop, sr, hk, hkids, hop, hlf, hrf, hgl, hgr⟩ := genFlex_inv hflex
      simp only [T.kids_mk] at hk
      subst hk
      obtain ⟨b, hb, hbe⟩ := shallowMatch_gen (ε := ε) (cm := false) (pf := pf) (pp := pp) (sp := sp)
        (by simp [metasMatch]) hfunc hnode (fun h => absurd (hkind.symm.trans h) (by decide))
      exact deep_binflex_intro expected_merged hpre rfl hkids hb hbe
        (opGen_shallow hop (flexOp_op hfl)) (expected_pairMap _ _)
        ((ih l (by simp)).kid false hlf hgl) ((ih rr (by simp)).kid false hrf hgr)

/-! ### the relation is inhabited: every tree generalises itself, and a wildcard generalises anything -/

mutual
/-- no node of the tree is an `__e__` placeholder -/
def noExp (t : T) : Bool :=
  match t with
  | .mk k f fl kids => (match role (.mk k f fl kids) with | .expPh _ => false | _ => true) && noExpL kids
def noExpL (ts : List T) : Bool :=
  match ts with
  | [] => true
  | t :: rest => noExp t && noExpL rest
end

theorem fldsGen_refl (skip : Option String) : ∀ l : List Fld, fldsGen skip l l := by
  intro l
  induction l with
  | nil => trivial
  | cons a as ih => exact ⟨⟨rfl, Or.inr (Or.inr (Or.inl rfl))⟩, ih⟩

theorem nodeGen_refl (t : T) : nodeGen (fun x => x) t t := by
  refine ⟨rfl, fldsGen_refl _ _, ?_⟩
  simp only [identGen]
  cases hi : identField t.kind with
  | none => trivial
  | some f =>
    simp only
    cases hc : nameClass (t.strAttr f) <;> simp

/-- the children generalise themselves, whatever stands in front of them on the program side -/
theorem genKids_refl {ε : String → Option Path} (ig : List String) (pp sp : Path) (kids : List T)
    (hIH : ∀ c ∈ kids, ∀ pp sp, genAt (fun x => x) ε pp c sp c) :
    ∀ (pre : List T) i j, genKids (fun x => x) ε ig pp i kids sp j (pre ++ kids) := by
  induction kids with
  | nil => intro pre i j; rw [genKids]; trivial
  | cons c rest ih =>
    intro pre i j
    have ih' := ih (fun c hc => hIH c (List.mem_cons_of_mem _ hc))
    rw [genKids]
    by_cases hign : ig.contains c.field = true
    · -- an ignored child is skipped on the pattern side only
      rw [if_pos hign]
      simpa using ih' (pre ++ [c]) (i + 1) j
    · rw [if_neg hign]
      exact ⟨pre.length, c, by simp, rfl, hIH c List.mem_cons_self _ _,
        by simpa using ih' [] (i + 1) (j + pre.length + 1)⟩

theorem noExpL_eq (ks : List T) : noExpL ks = ks.all noExp := by
  induction ks with
  | nil => rfl
  | cons t ts ih => rw [noExpL, ih, List.all_cons]

/-- **non-vacuity of `genAt`**: a tree without `__e__` placeholders generalises itself (no step applied), with
every identifier standing for itself -/
theorem genAt_refl {ε : String → Option Path} : ∀ (t : T), noExp t = true → binOp3 t = true →
    ∀ pp sp, genAt (fun x => x) ε pp t sp t := by
  intro t
  induction t using T.induct' with
  | h k f fl kids ih =>
    intro hne hb pp sp
    rw [noExp, noExpL_eq, Bool.and_eq_true, List.all_eq_true] at hne
    obtain ⟨hbk, hb3⟩ := binOp3_kids hb
    have hIH : ∀ c ∈ kids, ∀ pp sp, genAt (fun x => x) ε pp c sp c :=
      fun c hc => ih c hc (hne.2 c hc) (hbk c hc)
    rw [genAt_eq (fun n h => by rw [h] at hne; exact absurd hne.1 (by simp))]
    split
    · trivial
    · refine ⟨nodeGen_refl _, ?_⟩
      split
      · rename_i hfl
        obtain ⟨l, op, rr, rfl⟩ := hb3 (by simp only [flexOp, Bool.and_eq_true, decide_eq_true_eq] at hfl; exact hfl.1)
        rw [T.kids_mk, genFlex]
        exact ⟨l, op, rr, rfl, ⟨rfl, rfl, fldsGen_refl _ _⟩, rfl, rfl, hIH l (by simp) _ _, hIH rr (by simp) _ _⟩
      · exact genKids_refl _ pp sp kids hIH [] 0 0

theorem genAt_of_wildcard {ρ : String → String} {ε : String → Option Path} {pp sp : Path} {p t : T}
    (hk : p.kind = "Name" ∨ p.kind = "Expr") (hr : role p = .wildcard) : genAt ρ ε pp p sp t := by
  rw [genAt_eq (fun n hn => by rw [hr] at hn; cases hn), if_pos ⟨hk, hr⟩]
  trivial

/-- **non-vacuity, a step**: a `___` Name generalises any node -/
theorem genAt_wildcard {ρ : String → String} {ε : String → Option Path} (f : String) (fl : List Fld) (kids : List T)
    (h : nameClass (strOfFlds "id" fl) = .wild) (pp sp : Path) (t : T) :
    genAt ρ ε pp (.mk "Name" f fl kids) sp t :=
  genAt_of_wildcard (Or.inl rfl) (by rw [role_name rfl]; simp only [T.strAttr, T.flds_mk, h])

/-! ### the decidable checker `genChk` (PedalModel/CaitSpec.lean) is sound for `genAt` -/

theorem fldGenB_sound {skip : Option String} {fi fs : Fld} (h : fldGenB skip fi fs = true) : fldGen skip fi fs := by
  simp only [fldGenB, Bool.and_eq_true, Bool.or_eq_true, decide_eq_true_eq] at h
  refine ⟨h.1, ?_⟩
  rcases h.2 with ((h | h) | h) | h
  · exact Or.inl h
  · exact Or.inr (Or.inl h)
  · exact Or.inr (Or.inr (Or.inl h))
  · cases hv : fi.val with
    | none => exact Or.inr (Or.inl rfl)
    | one i =>
      cases i with
      | node => exact Or.inr (Or.inr (Or.inr (Or.inl rfl)))
      | prim v => simp [hv] at h
    | many li =>
      simp only [hv, List.all_eq_true, decide_eq_true_eq] at h
      exact Or.inr (Or.inr (Or.inr (Or.inr ⟨li, rfl, h⟩)))

theorem fldsGenB_sound {skip : Option String} : ∀ (l1 l2 : List Fld), fldsGenB skip l1 l2 = true → fldsGen skip l1 l2 := by
  intro l1
  induction l1 with
  | nil => intro l2 h; cases l2 with
    | nil => trivial
    | cons _ _ => simp [fldsGenB] at h
  | cons a as ih =>
    intro l2 h
    cases l2 with
    | nil => simp [fldsGenB] at h
    | cons b bs =>
      simp only [fldsGenB, Bool.and_eq_true] at h
      exact ⟨fldGenB_sound h.1, ih bs h.2⟩

theorem identGenB_sound {rho : List (String × String)} {p t : T} (h : identGenB rho p t = true) :
    identGen (rhoF rho) p t := by
  simp only [identGenB] at h
  simp only [identGen]
  cases hi : identField p.kind with
  | none => trivial
  | some f =>
    simp only [hi] at h ⊢
    cases hc : nameClass (p.strAttr f) <;> simp only [hc] at h ⊢ <;> first | trivial | simpa using h

theorem nodeGenB_sound {rho : List (String × String)} {p t : T} (h : nodeGenB rho p t = true) :
    nodeGen (rhoF rho) p t := by
  simp only [nodeGenB, Bool.and_eq_true, decide_eq_true_eq] at h
  exact ⟨h.1.1, fldsGenB_sound _ _ h.1.2, identGenB_sound h.2⟩

theorem opGenB_sound {op sop : T} (h : opGenB op sop = true) : opGen op sop := by
  simp only [opGenB, Bool.and_eq_true, decide_eq_true_eq] at h
  exact ⟨h.1.1, h.1.2, fldsGenB_sound _ _ h.2⟩

theorem genChkKids_sound {rho : List (String × String)} {eps : List (String × Path)} {al : List (Path × Path)}
    (ig : List String) (pp sp : Path) (t : T) (ps : List T)
    (hIH : ∀ c ∈ ps, ∀ pp sp t, genChk rho eps al pp c sp t = true → genAt (rhoF rho) (epsF eps) pp c sp t) :
    ∀ i minJ, genChkKids rho eps al ig pp i ps sp minJ t = true →
      genKids (rhoF rho) (epsF eps) ig pp i ps sp minJ (t.kids.drop minJ) := by
  induction ps with
  | nil => intro i minJ _; rw [genKids]; trivial
  | cons pc rest ih =>
    intro i minJ h
    have ih' := ih (fun c hc => hIH c (List.mem_cons_of_mem _ hc))
    rw [genChkKids] at h
    rw [genKids]
    by_cases hign : ig.contains pc.field = true
    · simp only [hign, if_true] at h ⊢
      exact ih' (i + 1) minJ h
    · simp only [hign, Bool.false_eq_true, if_false] at h ⊢
      cases hd : dictGet (pp ++ [i]) al with
      | none => simp [hd] at h
      | some q =>
        simp only [hd] at h
        cases hj : q.getLast? with
        | none => simp [hj] at h
        | some j =>
          simp only [hj, Bool.and_eq_true, decide_eq_true_eq] at h
          obtain ⟨⟨⟨hq, hle⟩, hkid⟩, hrest⟩ := h
          obtain ⟨d, rfl⟩ := Nat.exists_eq_add_of_le hle
          cases hs : t.kids[minJ + d]? with
          | none => simp [hs] at hkid
          | some sj =>
            simp only [hs, Bool.and_eq_true, decide_eq_true_eq] at hkid
            refine ⟨d, sj, by rw [List.getElem?_drop]; exact hs, hkid.1,
              hq ▸ hIH pc List.mem_cons_self _ _ _ hkid.2, ?_⟩
            rw [List.drop_drop]
            exact ih' (i + 1) (minJ + d + 1) hrest

theorem genChkFlex_sound {rho : List (String × String)} {eps : List (String × Path)} {al : List (Path × Path)}
    {kids : List T} {pp sp : Path} {t : T}
    (ih : ∀ c ∈ kids, ∀ pp sp t, genChk rho eps al pp c sp t = true → genAt (rhoF rho) (epsF eps) pp c sp t)
    (h : genChkFlex rho eps al pp kids sp t = true) : genFlex (rhoF rho) (epsF eps) pp kids sp t := by
  rw [genChkFlex.eq_def] at h
  split at h
  · split at h
    · rename_i hk
      simp only [Bool.and_eq_true, decide_eq_true_eq] at h
      obtain ⟨⟨⟨⟨h1, h2⟩, h3⟩, h4⟩, h5⟩ := h
      rw [genFlex]
      exact ⟨_, _, _, hk, opGenB_sound h1, h2, h3, ih _ (by simp) _ _ _ h4, ih _ (by simp) _ _ _ h5⟩
    · cases h
  · cases h

theorem genChk_sound {rho : List (String × String)} {eps : List (String × Path)} {al : List (Path × Path)} :
    ∀ (p : T) (pp sp : Path) (t : T), genChk rho eps al pp p sp t = true → genAt (rhoF rho) (epsF eps) pp p sp t := by
  intro p
  induction p using T.induct' with
  | h k f fl kids ih =>
    intro pp sp t h
    rw [genChk.eq_def] at h
    simp only at h
    cases hr : role (T.mk k f fl kids) with
    | expPh name =>
      rw [genAt_exp hr]
      simpa [hr, epsF] using h
    | _ =>
      rw [genAt_eq (fun n hn => by rw [hr] at hn; cases hn)]
      split
      · trivial
      · rename_i hw
        simp only [hr, T.kind_mk, Bool.and_eq_true, Bool.or_eq_true, decide_eq_true_eq] at h hw
        rw [if_neg hw, Bool.and_eq_true] at h
        refine ⟨nodeGenB_sound h.1, ?_⟩
        by_cases hfl : flexOp (T.mk k f fl kids) = true
        · rw [if_pos hfl] at h ⊢
          exact genChkFlex_sound ih h.2
        · rw [if_neg hfl] at h ⊢
          have := genChkKids_sound _ pp sp t kids ih 0 0 h.2
          rw [List.drop_zero] at this
          exact this


end Pedal.Cait
