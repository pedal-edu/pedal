import PedalProofs.SectionsIRLemmas
import PedalProofs.SectionsLemmas
/-
C17 — sections split a submission losslessly and report whole-file line numbers.
Theorems are about `Pedal.Sections` (the model the driver executes): `splitSections` (re.split for a
line-anchored one-group pattern, marker predicate as a parameter), the next/stop state machine and the
line-offset arithmetic.  Which lines are markers is supplied by Python's `re` (runtime parameter).
-/
namespace Pedal.Sections

/-- The chunks of a text for a given marking of its lines. -/
def sectionsOf (t : Text) (marks : List Bool) : List Text := splitSections (zipMarks (splitLines t) marks)

/-- The chunks in either mode (`takesNL`: the pattern's group also captures the separator's newline). -/
def sectionsOfMode (takesNL : Bool) (t : Text) (marks : List Bool) : List Text :=
  splitMode takesNL (zipMarks (splitLines t) marks)

theorem sectionsOfMode_false (t : Text) (marks : List Bool) : sectionsOfMode false t marks = sectionsOf t marks := rfl

theorem concat_sectionsOfMode (takesNL : Bool) (t : Text) (marks : List Bool) :
    concat (sectionsOfMode takesNL t marks) = t := by
  rw [sectionsOfMode, concat_splitMode, zipMarks_fst, joinLines_splitLines]

/-- Separating loses nothing: code chunks and separators concatenate back to the file. -/
theorem c17_lossless (t : Text) (marks : List Bool) : concat (sectionsOf t marks) = t :=
  concat_sectionsOfMode false t marks

theorem c17_lossless_nl (t : Text) (marks : List Bool) : concat (sectionsOfMode true t marks) = t :=
  concat_sectionsOfMode true t marks

/-! #### Shape of the split: code, marker, code, …, code; every code chunk after a marker starts a new line. -/

def startsNL (c : Text) : Bool := c.isEmpty || c.head? == some '\n'

theorem startsNL_append_nl (cur : Text) (h : startsNL cur = true) (x : Text) :
    startsNL (cur ++ '\n' :: x) = true := by
  cases cur with
  | nil => rfl
  | cons c cs => exact h

/-- Every code chunk that follows a separator starts a new line, and so does the first chunk when a line has been
    consumed already and the text collected so far does. -/
theorem startsNL_splitGo (lines : List (Text × Bool)) (cur : Text) (first : Bool) (k : Nat) (c : Text)
    (h0 : k = 0 → first = false ∧ startsNL cur = true) (hc : (splitGo lines cur first)[2 * k]? = some c) :
    startsNL c = true := by
  induction lines generalizing cur first k with
  | nil =>
    cases k with
    | zero => cases hc; exact (h0 rfl).2
    | succ k => cases hc
  | cons l ls ih =>
    have hcur (hk : k = 0) (x : Text) : startsNL ((if first then cur else cur ++ ['\n']) ++ x) = true := by
      obtain ⟨rfl, h⟩ := h0 hk
      simpa using startsNL_append_nl cur h x
    rw [splitGo] at hc
    split at hc
    · cases k with
      | zero => cases hc; simpa using hcur rfl []
      | succ k => exact ih [] false k (fun _ => ⟨rfl, rfl⟩) hc
    · exact ih _ false k (fun hk => ⟨rfl, hcur hk l.1⟩) hc

/-- Every code chunk after the first starts a new line (or is empty: the marker was the last line). -/
theorem c17_later_chunks_start_lines (t : Text) (marks : List Bool) (k : Nat) (c : Text)
    (hc : (sectionsOf t marks)[2 * (k + 1)]? = some c) : startsNL c = true :=
  startsNL_splitGo _ [] true (k + 1) c nofun hc

theorem length_splitGo_odd (lines : List (Text × Bool)) (cur : Text) (first : Bool) :
    (splitGo lines cur first).length % 2 = 1 := by
  induction lines generalizing cur first with
  | nil => rfl
  | cons l ls ih =>
    rw [splitGo]
    split
    · rw [List.length_cons, List.length_cons, Nat.add_assoc, Nat.add_mod_right]
      exact ih [] false
    · exact ih _ false

/-! #### The next/stop state machine -/

/-- State right after `separate_into_sections` on a fresh submission holding `t`. -/
def separated (t : Text) (marks : List Bool) (indep takesNL : Bool) : St :=
  { main := (sectionsOfMode takesNL t marks).headD [], subs := [t], sections := sectionsOfMode takesNL t marks,
    separated := true, idx := 0, independent := indep, offset := 0 }

theorem run_separate (t : Text) (marks : List Bool) (indep takesNL : Bool) (ops : List Op) :
    run { main := t } (.separate marks indep takesNL :: ops) = run (separated t marks indep takesNL) ops := rfl

theorem run_append (s : St) (ops ops' : List Op) : run s (ops ++ ops') = (run s ops).bind (run · ops') := by
  induction ops generalizing s with
  | nil => rfl
  | cons op ops ih => simp only [List.cons_append, run, Option.bind_assoc, ih]

/-- What `next_section` presents when it moves to list index `idx`. -/
def presented (secs : List Text) (indep : Bool) (t : Text) (idx : Nat) : Text :=
  if sectionNumber idx ≤ sectionNumber (secs.length - 1) then
    if indep then (secs[idx]?).getD [] else concat (secs.take (idx + 1))
  else t

/-- Invariant while sections are active: the original text is the only substitution on the stack. -/
structure Active (t : Text) (secs : List Text) (indep : Bool) (s : St) : Prop where
  subs : s.subs = [t]
  sections : s.sections = secs
  independent : s.independent = indep

theorem separated_active (t : Text) (marks : List Bool) (indep takesNL : Bool) :
    Active t (sectionsOfMode takesNL t marks) indep (separated t marks indep takesNL) := ⟨rfl, rfl, rfl⟩

theorem next_ok (t : Text) (secs : List Text) (indep : Bool) (s : St) (h : Active t secs indep s) :
    ∃ s', step s .next = some s' ∧ Active t secs indep s' ∧ s'.idx = s.idx + 2 ∧
      s'.main = presented secs indep t (s.idx + 2) ∧
      (sectionNumber (s.idx + 2) ≤ sectionNumber (secs.length - 1) → indep = true →
        s'.offset = countNL (concat (secs.take (s.idx + 2)))) ∧
      s'.notEnough = if sectionNumber (s.idx + 2) ≤ sectionNumber (secs.length - 1) then s.notEnough
        else s.notEnough ++ [(sectionNumber (s.idx + 2), sectionNumber (secs.length - 1))] := by
  obtain ⟨hs, rfl, rfl⟩ := h
  simp only [step, hs, List.getLast?_singleton, presented]
  split
  · split
    · exact ⟨_, rfl, ⟨rfl, rfl, rfl⟩, rfl, rfl, fun _ _ => rfl, rfl⟩
    · exact ⟨_, rfl, ⟨rfl, rfl, rfl⟩, rfl, rfl, fun _ h => absurd h ‹_›, rfl⟩
  · exact ⟨_, rfl, ⟨rfl, rfl, rfl⟩, rfl, rfl, fun h => absurd h ‹_›, rfl⟩

/-- Any number of `next_section` calls never raises and keeps the original text recoverable. -/
theorem nexts_ok (t : Text) (secs : List Text) (indep : Bool) (k : Nat) (s : St) (h : Active t secs indep s) :
    ∃ s', run s (List.replicate k .next) = some s' ∧ Active t secs indep s' ∧ s'.idx = s.idx + 2 * k ∧
      (0 < k → s'.main = presented secs indep t (s.idx + 2 * k)) ∧
      (0 < k → sectionNumber (s.idx + 2 * k) ≤ sectionNumber (secs.length - 1) → indep = true →
        s'.offset = countNL (concat (secs.take (s.idx + 2 * k)))) := by
  induction k with
  | zero => exact ⟨s, rfl, h, rfl, nofun, nofun⟩
  | succ k ih =>
    -- the last call decides what is presented
    obtain ⟨s1, hrun, hact, hidx, -⟩ := ih
    obtain ⟨s2, hstep, hact2, hidx2, hmain, hoff, -⟩ := next_ok t secs indep s1 hact
    rw [hidx] at hidx2 hmain hoff
    refine ⟨s2, ?_, hact2, hidx2, fun _ => hmain, fun _ => hoff⟩
    rw [List.replicate_succ', run_append, hrun]
    simp [run, hstep]

/-- Section k as presented to the tools is exactly the k-th chunk (independent mode) or the file up
    to and including it (cumulative mode); past the end the whole file stays, and nothing raises. -/
theorem c17_section_k (t : Text) (marks : List Bool) (indep takesNL : Bool) (k : Nat) (hk : 0 < k) :
    ∃ s, run { main := t } (.separate marks indep takesNL :: List.replicate k .next) = some s ∧
      s.main = presented (sectionsOfMode takesNL t marks) indep t (2 * k) ∧ s.subs = [t] ∧
      (sectionNumber (2 * k) ≤ sectionNumber ((sectionsOfMode takesNL t marks).length - 1) → indep = true →
        s.offset = countNL (concat ((sectionsOfMode takesNL t marks).take (2 * k)))) := by
  obtain ⟨s, hrun, hact, -, hmain, hoff⟩ := nexts_ok t _ indep k _ (separated_active t marks indep takesNL)
  rw [show (separated t marks indep takesNL).idx = 0 from rfl, Nat.zero_add] at hmain hoff
  exact ⟨s, run_separate .. ▸ hrun, hmain hk, hact.subs, hoff hk⟩

/-- Asking for a section past the end records the not-enough-sections feedback instead of failing. -/
theorem c17_past_end_gives_feedback (t : Text) (secs : List Text) (indep : Bool) (s : St)
    (h : Active t secs indep s) (hpast : sectionNumber (secs.length - 1) < sectionNumber (s.idx + 2)) :
    ∃ s', step s .next = some s' ∧ s'.main = t ∧
      s'.notEnough = s.notEnough ++ [(sectionNumber (s.idx + 2), sectionNumber (secs.length - 1))] := by
  obtain ⟨s', hstep, -, -, hmain, -, hne⟩ := next_ok t secs indep s h
  rw [presented, if_neg (Nat.not_le_of_gt hpast)] at hmain
  rw [if_neg (Nat.not_le_of_gt hpast)] at hne
  exact ⟨s', hstep, hmain, hne⟩

/-- After sections are stopped (explicitly, or by the resolver's hook) the main code is the original text
    (and no line offset of a section stays behind on the submission). -/
theorem c17_main_code_restored (t : Text) (marks : List Bool) (indep takesNL : Bool) (k : Nat) (viaHook : Bool) :
    ∃ s, run { main := t } (.separate marks indep takesNL :: List.replicate k .next ++ [if viaHook then .resolveHook else .stop])
          = some s ∧ s.main = t ∧ s.subs = [] ∧ s.offset = 0 := by
  obtain ⟨s, hrun, hact, -⟩ := nexts_ok t _ indep k _ (separated_active t marks indep takesNL)
  refine ⟨{ s with subs := [], main := t, offset := 0 }, ?_, rfl, rfl, rfl⟩
  rw [run_append, run_separate, hrun]
  cases viaHook <;> simp [run, step, hact.subs]

/-! #### Whole-file line numbers -/

/-- Independent mode: line `r` of the presented section is line `offset + r` of the original file
    (for every line that ends inside the section; `r = 1` is the rest of the separator line itself). -/
theorem c17_line_is_whole_file_line (t : Text) (marks : List Bool) (k : Nat) (c : Text)
    (hc : (sectionsOf t marks)[2 * (k + 1)]? = some c) (r : Nat) (hr : 2 ≤ r) (hin : r ≤ countNL c) :
    lineAt t (countNL (concat ((sectionsOf t marks).take (2 * (k + 1)))) + r) = lineAt c r := by
  have h := lineAt_concat _ _ c hc r hr hin
  rwa [c17_lossless] at h

/-- Cumulative mode: the presented text is a prefix of the file, so its line numbers are the file's. -/
theorem c17_cumulative_prefix (t : Text) (marks : List Bool) (n : Nat) (r : Nat)
    (hin : r < countNL (concat ((sectionsOf t marks).take n))) :
    (∃ rest, t = concat ((sectionsOf t marks).take n) ++ rest) ∧
    lineAt t (r + 1) = lineAt (concat ((sectionsOf t marks).take n)) (r + 1) := by
  have h1 := concat_take_drop (sectionsOf t marks) n
  rw [c17_lossless] at h1
  refine ⟨⟨_, h1.symm⟩, ?_⟩
  generalize concat ((sectionsOf t marks).take n) = A at h1 hin ⊢
  rw [← h1]
  exact splitLines_append_prefix A _ r hin

/-! #### Patterns whose group also captures the separator's newline -/

/-- In this mode every separator chunk ends with the newline it captured. -/
theorem endsNL_splitGoNL (lines : List (Text × Bool)) (cur : Text) (first : Bool) (k : Nat) (m : Text)
    (hm : (splitGoNL lines cur first)[2 * k + 1]? = some m) : ∃ m', m = m' ++ ['\n'] := by
  induction lines generalizing cur first k with
  | nil => cases hm
  | cons l ls ih =>
    rw [splitGoNL] at hm
    split at hm
    · cases k with
      | zero => cases hm; exact ⟨l.1, rfl⟩
      | succ k => exact ih [] true k hm
    · exact ih _ false k hm

/-- In this mode a later section starts at the beginning of a line, so line `r` (1 ≤ r) of the presented
    chunk is line `offset + r` of the file. -/
theorem c17_line_is_whole_file_line_nl (t : Text) (marks : List Bool) (k : Nat) (c : Text)
    (hc : (sectionsOfMode true t marks)[2 * (k + 1)]? = some c) (r : Nat) (hr : 1 ≤ r) (hin : r ≤ countNL c) :
    lineAt t (countNL (concat ((sectionsOfMode true t marks).take (2 * (k + 1)))) + r) = lineAt c r := by
  -- the separator just before the chunk
  obtain ⟨m, hm⟩ : ∃ m, (sectionsOfMode true t marks)[2 * k + 1]? = some m :=
    ⟨_, List.getElem?_eq_getElem (Nat.lt_of_succ_lt (List.getElem?_eq_some_iff.mp hc).1)⟩
  obtain ⟨m', rfl⟩ := endsNL_splitGoNL _ _ _ k m hm
  have h := lineAt_concat_at_line_start _ _ c hc _
    ((concat_take_succ _ _ _ hm).trans (List.append_assoc ..).symm) r hr hin
  rwa [concat_sectionsOfMode] at h

/- Non-vacuity (evaluated tests). -/
def demo : Text := "a=1\n##### Part 1\nb=2\nc=3\n##### Part 2\nd=4".toList
def demoMarks : List Bool := [false, true, false, false, true, false]
#guard (sectionsOf demo demoMarks).map String.ofList == ["a=1\n", "##### Part 1", "\nb=2\nc=3\n", "##### Part 2", "\nd=4"]
#guard (run { main := demo } [.separate demoMarks true, .next]).map (fun s => (String.ofList s.main, s.offset))
        == some ("\nb=2\nc=3\n", 1)
#guard lineAt demo (1 + 3) == some "c=3".toList && lineAt "\nb=2\nc=3\n".toList 3 == some "c=3".toList
#guard (run { main := demo } [.separate demoMarks true, .next, .next, .next]).map (fun s => (s.main == demo, s.notEnough))
        == some (true, [(3, 2)])
-- the group captures the newline: separator chunks end with it, the next chunk starts at a line start
#guard (sectionsOfMode true demo demoMarks).map String.ofList == ["a=1\n", "##### Part 1\n", "b=2\nc=3\n", "##### Part 2\n", "d=4"]
#guard (run { main := demo } [.separate demoMarks true true, .next]).map (fun s => (String.ofList s.main, s.offset))
        == some ("b=2\nc=3\n", 2)
#guard lineAt demo (2 + 2) == some "c=3".toList && lineAt "b=2\nc=3\n".toList 2 == some "c=3".toList

end Pedal.Sections
