import PedalProofs.SandboxExecLemmas
/-
C05 — whatever the sandbox patches is restored after every execution, however it ends.

Statements are about `Pedal.SandboxExec.execute / stepOp / runOps` on the GENERATED configuration `genCfg`
(handler ladder from the AST of `Sandbox._execute`, probed mocking/tracer behaviour), for EVERY termination
descriptor (normal, any raised exception whatever its class flags and hazards, compile failure), with or without
a failure injected into the recording of the exception, whether the call returns or propagates, and for every
sequence of such executions (induction over histories).

The general statements are about `executeN` / `runN`: an execution started in ANY state of the stacks, with
executions nested in it.  Those about `execute` / `stepOp` / `runOps` from empty stacks are that case with nothing
nested.

Timeouts (threaded execution) are C14's and are not modelled.
-/
namespace Pedal.SandboxExec
open Pedal.Gen.SandboxExec

/-- The generated ladder contains no statement or `except` class the translator did not understand. -/
def ExecuteDef.wellFormed (d : ExecuteDef) : Bool :=
  let ok := fun (as : List Act) => as.all (· != .unknown)
  ok d.pre && ok d.body && ok d.orelse && ok d.final && ok d.post &&
    d.handlers.all (fun h => h.catches != .unknown && ok h.body)

theorem c05_ladder_well_formed : executeDef.wellFormed = true := by decide

/-- For each of the 48 control signatures, from empty stacks the generated ladder ends with empty stacks
    and performs only steps covered by the restoration invariant - by evaluation of `plan`. -/
theorem c05_ladder_balanced : allSigs.all (checkC05 mockProbe executeDef) = true := by decide +kernel

/-- Probe: `_start_mocking; _stop_mocking` (also nested) leaves every borrowed global as found. -/
theorem c05_probe_restores : mockProbe.stopRestores = true := by decide

/-- The model has no notion of the thread the grader runs on (`_stop_mocking` consults the current thread for the
    finish claim of a timed execution): the probe above, repeated with the caller on a plain threading.Thread, a pool
    worker, a thread `threading` did not start and a Timer, measures the same as on the main thread and restores
    everything there too. -/
theorem c05_probe_thread_independent : mockProbeOnThread.all (fun p => p.2) = true := by decide

theorem gen_checkC05 (sig : Sig) : checkC05 genCfg.probe genCfg.exec sig = true :=
  forall_sig_of_all c05_ladder_balanced sig

/-! ### Executions nested in one another (the reason why `_current_patches` / `_current_stdout` are stacks) -/

/-- The generated ladder does the same whatever is already on the stacks: the plan computed at any depth is the
    plan computed from empty stacks (`c05_ladder_balanced` includes: it never pops a stack that is empty and never
    goes below the depth it started at). -/
theorem c05_ladder_depth_independent (b : Base) (sig : Sig) :
    plan mockProbe b sig executeDef = plan mockProbe base0 sig executeDef :=
  plan_any_base (cfg := genCfg) gen_checkC05 b sig

/-- The hypothesis `DepthIndependent` of `c04_contained_when_nested` (PedalProofs/C04.lean), discharged
    (stated here in full because C05.lean does not import C04.lean). -/
theorem c05_discharges_c04_depth_hypothesis :
    ∀ (b : Base) (sig : Sig), plan mockProbe b sig executeDef = plan mockProbe base0 sig executeDef :=
  c05_ladder_depth_independent

/-- An execution started in ANY state of the stacks - i.e. while any number of other executions are in progress
    on the same sandbox - whose running code starts further executions `inner` that leave things as they found
    them: both stacks and every borrowed global are exactly what they were when it started, however it ends. -/
theorem c05_restored_when_nested (style : TraceStyle) (nested : Bool) (hst : TraceOK style nested)
    (inner : St → St) (hin : Framed inner) (s : St) (t : Termination) (inject : Bool) :
    (executeN genCfg style nested s t inject inner).1.patches = s.patches ∧
    (executeN genCfg style nested s t inject inner).1.stdouts = s.stdouts ∧
    (executeN genCfg style nested s t inject inner).1.g = s.g :=
  executeN_framed gen_checkC05 c05_probe_restores hin hst t inject s

/-- Every tree of executions - an execution through run / call / evaluate whose code starts further executions
    on the same sandbox, to any depth, each ending in any way - leaves both stacks and the borrowed globals as
    they were when its root started (induction over the tree). -/
theorem c05_restored_after_nested (n : NOp) (h : n.traceOK = true) (s : St) :
    (runN genCfg n s).patches = s.patches ∧ (runN genCfg n s).stdouts = s.stdouts ∧ (runN genCfg n s).g = s.g :=
  runN_framed gen_checkC05 c05_probe_restores n h s

/-- After ANY sequence of such trees, started with empty stacks: empty stacks, the original globals. -/
theorem c05_restored_after_nested_history (ns : List NOp) (h : NOp.allTraceOK ns = true) (s : St) (hs : s.Inv) :
    (runHistN genCfg s ns).Inv ∧ (runHistN genCfg s ns).g = s.g :=
  (runNs_framed gen_checkC05 c05_probe_restores ns h).restores hs

/-- Without nested executions the two models coincide (the driver runs `execute` for plain histories). -/
theorem c05_executeN_extends_execute (style : TraceStyle) (nested : Bool) (s : St) (t : Termination) (inject : Bool) :
    executeN genCfg style nested s t inject id = execute genCfg style nested s t inject :=
  executeN_id genCfg style nested s t inject

/-! ### Executions started with empty stacks, nothing nested in them -/

/-- After one `_execute` - returning or propagating, whatever the student code did, even if recording the
    failure itself failed - both stacks are empty again and stdout / time.sleep / sys.modules / the trace
    function / the process builtins are what they were (tracer styles that restore the trace function). -/
theorem c05_restored_after_execute (style : TraceStyle) (nested : Bool) (hst : TraceOK style nested) (s : St)
    (hs : s.Inv) (t : Termination) (inject : Bool) :
    (execute genCfg style nested s t inject).1.Inv ∧ (execute genCfg style nested s t inject).1.g = s.g := by
  rw [← executeN_id]
  exact (executeN_framed gen_checkC05 c05_probe_restores framed_id hst t inject).restores hs

/-- The same through the entry points `run`, `call` (including the missing-function early return), `evaluate`. -/
theorem c05_restored_after_op (s : St) (hs : s.Inv) (op : Op) (hst : TraceOK op.style op.nested) :
    (stepOp genCfg s op).1.Inv ∧ (stepOp genCfg s op).1.g = s.g := by
  rw [← stepOpN_id]
  exact (stepOpN_framed gen_checkC05 c05_probe_restores framed_id op hst).restores hs

/-- The hypothesis `StacksRestored` of `c04_history` (PedalProofs/C04.lean), discharged. -/
theorem c05_discharges_c04_hypothesis (s : St) (op : Op) (hs : s.Inv) (hst : TraceOK op.style op.nested) :
    (stepOp genCfg s op).1.Inv :=
  (c05_restored_after_op s hs op hst).1

/-- After ANY sequence of executions the stacks are empty and the borrowed globals are the original ones. -/
theorem c05_restored_after_history (ops : List Op) (hst : ∀ op ∈ ops, TraceOK op.style op.nested) (s : St)
    (hs : s.Inv) :
    (runOps genCfg s ops).Inv ∧ (runOps genCfg s ops).g = s.g := by
  induction ops generalizing s with
  | nil => exact ⟨hs, rfl⟩
  | cons op ops ih =>
    obtain ⟨hop, hst⟩ := List.forall_mem_cons.mp hst
    have h1 := c05_restored_after_op s hs op hop
    have h2 := ih hst _ h1.1
    exact ⟨h2.1, h2.2.trans h1.2⟩

/-- Student code gets a private copy of the builtins: no execution history changes the process-wide ones. -/
theorem c05_builtins_private (ops : List Op) (hst : ∀ op ∈ ops, TraceOK op.style op.nested) (s : St)
    (hs : s.Inv) :
    mockProbe.builtinsPrivate = true ∧ (runOps genCfg s ops).g.builtins = s.g.builtins :=
  ⟨by decide, by rw [(c05_restored_after_history ops hst s hs).2]⟩

/-- Non-vacuity: the initial state satisfies the invariant, and a history mixing a normal run, a
    KeyboardInterrupt-like exception (neither Exception nor SystemExit) and an injected recording failure
    is covered (evaluated). -/
example : St.init.Inv := by decide

def exampleStyle : TraceStyle := { name := "native", installs := true, restores := true, restoresNested := true }
def exampleBase : ExcDesc :=
  { cls := "KeyboardInterrupt", isException := false, isSystemExit := false, isKeyError := false, hazards := [],
    synLine := none, frames := [{ kind := .student, line := 2 }] }
def exampleOps : List Op :=
  [{ entry := .run, style := exampleStyle, nested := true, inject := false, term := .normal },
   { entry := .run, style := exampleStyle, nested := false, inject := false, term := .raised exampleBase },
   { entry := .call true, style := exampleStyle, nested := true, inject := true,
     term := .raised { exampleBase with cls := "ValueError", isException := true } }]

example : (stepOp genCfg St.init exampleOps[1]).2.1 = .propagated .student := by decide +kernel
example : (runOps genCfg St.init exampleOps).Inv := by decide +kernel

/-- Non-vacuity (evaluated): a run whose code starts an evaluate that raises and then a call whose own code starts
    a run ending by KeyboardInterrupt (depth 3), the outer run then failing; inside, the stacks are NOT empty. -/
def exampleTree : NOp :=
  .mk { entry := .run, style := exampleStyle, nested := true, inject := false,
        term := .raised { exampleBase with cls := "ZeroDivisionError", isException := true } }
    [.mk { entry := .evaluate, style := exampleStyle, nested := false, inject := false,
           term := .raised { exampleBase with cls := "ValueError", isException := true } } [],
     .mk { entry := .call true, style := exampleStyle, nested := true, inject := false, term := .normal }
       [.mk { entry := .run, style := exampleStyle, nested := false, inject := false, term := .raised exampleBase } []]]

example : exampleTree.traceOK = true := by decide
example : (runHistN genCfg St.init [exampleTree, exampleTree]).Inv := by decide +kernel
example : (Wire.statePre genCfg St.init { entry := .run, style := exampleStyle, nested := false, inject := false,
                                          term := .normal }).map (fun s => s.patches.length) = some 1 := by decide +kernel
example : (runHistN genCfg St.init [exampleTree]).feedbacks.length = 2 := by decide +kernel

/-- What the stack discipline is for (evaluated): a `_stop_patches` that pops the OLDEST frame instead of the
    newest (probe `stopRestores` false for nested start/stop) would be invisible to every theorem about un-nested
    executions only through the probe; the nested theorems need `c05_probe_restores`. -/
example : mockProbe.stopRestores = true := c05_probe_restores

/-! ### The full statement over every generated tracer style, and the region where it fails -/

/-- A tracer style that installs a trace function and does not put the previous one back - at all, or (when the
    executed code imports another student file) after being re-entered. -/
def Excluded (style : TraceStyle) (nested : Bool) : Bool := style.leaks nested

/-- `Sandbox._import` leaves failure handling and patching to the `_execute` it runs inside (from its AST). -/
theorem c05_import_transparent : importDef.transparent = true := by decide

/-- The property as stated: for EVERY tracer style pedal offers, importing student files or not. -/
def C05_Restored_Full : Prop :=
  ∀ style ∈ traceStyles, ∀ (nested : Bool) (s : St), s.Inv → ∀ t inject,
    (execute genCfg style nested s t inject).1.Inv ∧ (execute genCfg style nested s t inject).1.g = s.g

theorem c05_restored_partial (style : TraceStyle) (nested : Bool) (hx : Excluded style nested = false) (s : St)
    (hs : s.Inv) (t : Termination) (inject : Bool) :
    (execute genCfg style nested s t inject).1.Inv ∧ (execute genCfg style nested s t inject).1.g = s.g :=
  c05_restored_after_execute style nested hx s hs t inject

theorem c05_restored_full_of_no_excluded (h : ∀ style ∈ traceStyles, Excluded style true = false) :
    C05_Restored_Full :=
  fun style hm nested s hs t inject =>
    c05_restored_partial style nested (TraceOK.and (h style hm) nested) s hs t inject

/-- The data layer reads a tracer style only through whether it leaks. -/
theorem applyPrim_style (env : Env) (style' : TraceStyle) (h : style'.leaks env.nested = env.style.leaks env.nested) :
    applyPrim { env with style := style' } = applyPrim env := by
  funext s q
  cases q
  case exec => simp only [applyPrim, h]
  all_goals rfl

theorem applyPrims_style (env : Env) (style' : TraceStyle) (h : style'.leaks env.nested = env.style.leaks env.nested)
    (qs : List Prim) (s : St) :
    applyPrims { env with style := style' } s qs = applyPrims env s qs :=
  congrArg (List.foldl · s qs) (applyPrim_style env style' h)

def leakyStyle : TraceStyle := { name := "", installs := true, restores := false, restoresNested := false }

/-- With a leaking style even a program that ends normally (after importing a student file) leaves another
    trace function (evaluated). -/
def traceLeakCheck : Bool :=
  (execute genCfg leakyStyle true St.init .normal false).1.g.trace != St.init.g.trace

/-- Whenever the probe table lists a style that leaks (at least when re-entered), the full statement is false:
    a normal run that imports a student file, from the initial state with that style, ends with a different trace
    function. -/
theorem c05_restored_counterexample (hx : traceStyles.any (Excluded · true) = true) (hre : importDef.reentersTracer = true)
    (hc : traceLeakCheck = true) : ¬ C05_Restored_Full := by
  intro hfull
  obtain ⟨style, hm, he⟩ := List.any_eq_true.mp hx
  have := (hfull style hm true St.init (by decide) .normal false).2
  have hsame : (execute genCfg style true St.init .normal false).1 =
      (execute genCfg leakyStyle true St.init .normal false).1 := by
    simp only [execute]
    have hn : (envOf genCfg leakyStyle true .normal).nested = true := by
      show (true && importDef.reentersTracer) = true
      simp [hre]
    exact (applyPrims_style (envOf genCfg leakyStyle true .normal) style
      (by rw [hn]; simpa [Excluded, envOf, leakyStyle, TraceStyle.leaks] using he) _ _)
  rw [hsame] at this
  simp only [traceLeakCheck, bne_iff_ne, ne_eq] at hc
  exact hc (by rw [this])

/-- The counterexample applies to the tree under test exactly when the table lists such a style (evaluated). -/
theorem c05_counterexample_applies :
    traceStyles.any (Excluded · true) = true → importDef.reentersTracer = true ∧ traceLeakCheck = true := by decide +kernel

end Pedal.SandboxExec
