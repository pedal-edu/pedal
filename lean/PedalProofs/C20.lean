import PedalProofs.FeedbackCoreLemmas
/-
C20 — each feedback call is recorded once, truthfully, and rendered from its fields.

All statements are about `Pedal.FeedbackCore.construct / handle / render / dispatch / Store.*`, the
functions the driver `driver_c20` executes.  They hold for every oracle `O` (what formatter methods and
`str.__format__` return or raise), every world and every keyword combination.
-/
namespace Pedal.FeedbackCore
open Pedal.Gen.FeedbackCore

/-! ### `_handle_condition` -/

theorem failWith_id (o : FbObj) (e : Exc) : (failWith o e).id = o.id := rfl

/-- What `_handle_condition` leaves behind is one of exactly three shapes: active, inactive, or failed at one of
    the four steps that can raise.  No step of the `try` block reads what the block itself assigns, so each
    step's outcome is stated for the object as `__init__` left it. -/
theorem evalHandle_cases (O : Oracle) (F : String) (avail : List String) (s : Store) (o : FbObj) :
    (∃ j m, evalHandle O F avail s o =
        { o with exc := none, met := true, justificationI := some j, messageI := some m, status := .active } ∧
      evalCond o = .ok true ∧ getMessage O F avail s o = .ok m) ∨
    (∃ j em u, evalHandle O F avail s o =
        { o with exc := none, met := false, justificationI := some j, elseMessageI := some em, messageI := some em,
                 unusedMessage := u, status := .inactive } ∧
      evalCond o = .ok false ∧ getElseMessage O F avail s o = .ok em) ∨
    (∃ ji e, evalHandle O F avail s o = failWith { o with justificationI := ji } e ∧
      (evalCond o = .error e ∨ ∃ met, evalCond o = .ok met ∧
        (getJustification O F avail s o met = .error e ∨
         (met = true ∧ getMessage O F avail s o = .error e) ∨
         (met = false ∧ getElseMessage O F avail s o = .error e)))) := by
  unfold evalHandle
  dsimp only
  split
  · next e h => exact .inr (.inr ⟨_, e, rfl, .inl h⟩)
  · next met hcond =>
    split
    · next e hj => exact .inr (.inr ⟨_, e, rfl, .inr ⟨met, hcond, .inl hj⟩⟩)
    · next j hj =>
      cases met with
      | true =>
        rw [if_pos rfl]
        split
        · next e hm => exact .inr (.inr ⟨some j, e, rfl, .inr ⟨true, hcond, .inr (.inl ⟨rfl, hm⟩)⟩⟩)
        · next m hm => exact .inl ⟨j, m, rfl, hcond, hm⟩
      | false =>
        rw [if_neg Bool.false_ne_true]
        split
        · next e hm => exact .inr (.inr ⟨some j, e, rfl, .inr ⟨false, hcond, .inr (.inr ⟨rfl, hm⟩)⟩⟩)
        · next em hm => exact .inr (.inl ⟨j, em, _, rfl, hcond, hm⟩)

theorem evalHandle_id (O : Oracle) (F : String) (avail : List String) (s : Store) (o : FbObj) :
    (evalHandle O F avail s o).id = o.id := by
  rcases evalHandle_cases O F avail s o with ⟨_, _, h, _⟩ | ⟨_, _, _, h, _⟩ | ⟨_, _, h, _⟩
  all_goals exact h ▸ rfl

theorem evalHandle_parent (O : Oracle) (F : String) (avail : List String) (s : Store) (o : FbObj) :
    (evalHandle O F avail s o).parent = o.parent := by
  rcases evalHandle_cases O F avail s o with ⟨_, _, h, _⟩ | ⟨_, _, _, h, _⟩ | ⟨_, _, h, _⟩
  all_goals exact h ▸ rfl

/-- A construction that is not delayed is `__init__` followed by `_handle_condition`. -/
theorem construct_eq (O : Oracle) (w : World) (sp : FbSpec) (hd : sp.delay = false) :
    construct O w sp = handle O { w with nextId := w.nextId + 1 } (initObj w sp) := by
  simp only [construct, hd, Bool.false_eq_true, if_false]

/-! ### bookkeeping -/

/-- ids in the two lists are older than the next id to be handed out -/
def WorldOk (w : World) : Prop := ∀ i, i ∈ w.feedback ∨ i ∈ w.ignored → i < w.nextId

/-- how many times an id is recorded, over both lists -/
def recorded (w : World) (i : Nat) : Nat := w.feedback.count i + w.ignored.count i

theorem worldOk_iff (w : World) : WorldOk w ↔ ∀ i, w.nextId ≤ i → recorded w i = 0 := by
  simp only [recorded, Nat.add_eq_zero_iff, List.count_eq_zero, ← not_or]
  exact ⟨fun h i hi hm => Nat.not_lt.mpr hi (h i hm), fun h i hm => Nat.not_le.mp fun hi => h i hi hm⟩

theorem record_lists (w : World) (o : FbObj) :
    ((record w o).feedback = if o.met then w.feedback ++ [o.id] else w.feedback) ∧
    ((record w o).ignored = if o.met then w.ignored else w.ignored ++ [o.id]) ∧
    (record w o).nextId = w.nextId := by
  unfold record
  cases o.met <;> simp

theorem recorded_record (w : World) (o : FbObj) (i : Nat) :
    recorded (record w o) i = recorded w i + if i = o.id then 1 else 0 := by
  obtain ⟨hf, hi, _⟩ := record_lists w o
  have h1 : List.count i [o.id] = if i = o.id then 1 else 0 := by
    by_cases h : i = o.id
    · simp [h]
    · simp [h, Ne.symm h]
  unfold recorded
  rw [hf, hi]
  cases o.met
  · rw [if_neg Bool.false_ne_true, if_neg Bool.false_ne_true, List.count_append, h1, Nat.add_assoc]
  · rw [if_pos rfl, if_pos rfl, List.count_append, h1, Nat.add_right_comm]

theorem handle_recorded (O : Oracle) (w : World) (o : FbObj) (i : Nat) :
    recorded (handle O w o).1 i = recorded w i + (if i = o.id then 1 else 0) :=
  (recorded_record ..).trans (by rw [evalHandle_id])

theorem construct_recorded (O : Oracle) (w : World) (sp : FbSpec) (hd : sp.delay = false) (i : Nat) :
    recorded (construct O w sp).1 i = recorded w i + if i = w.nextId then 1 else 0 := by
  rw [construct_eq O w sp hd]
  exact handle_recorded O { w with nextId := w.nextId + 1 } (initObj w sp) i

/-- **Recorded exactly once.**  A (non-delayed) construction adds the new object exactly once over the
    two lists and changes no other object's count. -/
theorem c20_recorded_exactly_once (O : Oracle) (w : World) (sp : FbSpec) (hw : WorldOk w)
    (hd : sp.delay = false) :
    let r := construct O w sp
    r.2.obj.id = w.nextId ∧ recorded r.1 r.2.obj.id = 1 ∧ (∀ j, j ≠ r.2.obj.id → recorded r.1 j = recorded w j) := by
  have hid : (construct O w sp).2.obj.id = w.nextId := by
    rw [construct_eq O w sp hd]
    exact evalHandle_id ..
  refine ⟨hid, ?_, fun j hj => ?_⟩
  · rw [hid, construct_recorded O w sp hd, (worldOk_iff w).mp hw _ (Nat.le_refl _), if_pos rfl]
  · rw [construct_recorded O w sp hd, if_neg (hid ▸ hj)]
    rfl

/-- A delayed construction records nothing (the object is pending) … -/
theorem c20_delayed_not_recorded (O : Oracle) (w : World) (sp : FbSpec) (hd : sp.delay = true) :
    let r := construct O w sp
    r.1.feedback = w.feedback ∧ r.1.ignored = w.ignored ∧ r.2.obj.status = .delayed ∧ r.2.obj.met = false ∧
      r.2.raised = none := by
  unfold construct
  simp [hd, initObj]

/-- … and its later `_handle_condition()` records it exactly once. -/
theorem c20_delayed_recorded_on_handle (O : Oracle) (w : World) (o : FbObj) :
    recorded (handle O w o).1 o.id = recorded w o.id + 1 ∧
    ∀ j, j ≠ o.id → recorded (handle O w o).1 j = recorded w j :=
  ⟨by rw [handle_recorded, if_pos rfl], fun j hj => by rw [handle_recorded, if_neg hj]; rfl⟩

theorem construct_nextId (O : Oracle) (w : World) (sp : FbSpec) : (construct O w sp).1.nextId = w.nextId + 1 := by
  unfold construct
  split
  · rfl
  · exact (record_lists _ _).2.2

theorem construct_ok (O : Oracle) (w : World) (sp : FbSpec) (hw : WorldOk w) : WorldOk (construct O w sp).1 := by
  rw [worldOk_iff, construct_nextId] at *
  intro i hi
  cases hd : sp.delay with
  | true =>
    unfold construct
    rw [if_pos hd]
    exact hw i (Nat.le_of_succ_le hi)
  | false => rw [construct_recorded O w sp hd, hw i (Nat.le_of_succ_le hi), if_neg (Nat.ne_of_gt hi)]

/-- running a whole script of (non-delayed) feedback calls -/
def constructAll (O : Oracle) (w : World) (sps : List FbSpec) : World :=
  sps.foldl (fun w sp => (construct O w sp).1) w

/-- **History form.**  After any sequence of non-delayed feedback calls on a fresh report, every object
    created so far is recorded exactly once (and nothing else is recorded). -/
theorem c20_recorded_exactly_once_history (O : Oracle) (sps : List FbSpec) (hd : ∀ sp ∈ sps, sp.delay = false) :
    ∀ (w : World), WorldOk w → (∀ i, i < w.nextId → recorded w i = 1) →
      let w' := constructAll O w sps
      WorldOk w' ∧ (∀ i, i < w'.nextId → recorded w' i = 1) ∧ (∀ i, w'.nextId ≤ i → recorded w' i = 0) := by
  intro w hw h1
  have ⟨hw', h1'⟩ := sps.foldlRecOn (motive := fun w => WorldOk w ∧ ∀ i, i < w.nextId → recorded w i = 1) _ ⟨hw, h1⟩
    fun w ⟨hw, h1⟩ sp hsp => ⟨construct_ok O w sp hw, fun i hi => by
      rw [construct_nextId] at hi
      rw [construct_recorded O w sp (hd sp hsp)]
      by_cases h : i = w.nextId
      · rw [h, (worldOk_iff w).mp hw _ (Nat.le_refl _), if_pos rfl]
      · rw [h1 i (Nat.lt_of_le_of_ne (Nat.le_of_lt_succ hi) h), if_neg h]⟩
  exact ⟨hw', h1', (worldOk_iff _).mp hw'⟩

/-! ### the right list, the truth value, the error path -/

theorem initObj_id (w : World) (sp : FbSpec) : (initObj w sp).id = w.nextId := rfl

theorem initObj_msg (w : World) (sp : FbSpec) : (initObj w sp).msg = sp.msg := rfl

/-- **In the triggered list iff `bool(feedback)`; in the untriggered list iff not.** -/
theorem c20_right_list_iff_condition (O : Oracle) (w : World) (sp : FbSpec) (hw : WorldOk w)
    (hd : sp.delay = false) :
    let r := construct O w sp
    (r.2.obj.id ∈ r.1.feedback ↔ r.2.obj.met = true) ∧ (r.2.obj.id ∈ r.1.ignored ↔ r.2.obj.met = false) := by
  simp only [construct_eq O w sp hd, handle]
  obtain ⟨hf, hg, _⟩ := record_lists { w with nextId := w.nextId + 1 } (evalHandle O w.fmtId w.avail w.store (initObj w sp))
  have h1 : w.nextId ∉ w.feedback := fun hm => Nat.lt_irrefl _ (hw _ (.inl hm))
  have h2 : w.nextId ∉ w.ignored := fun hm => Nat.lt_irrefl _ (hw _ (.inr hm))
  rw [hf, hg, evalHandle_id, initObj_id]
  cases (evalHandle O w.fmtId w.avail w.store (initObj w sp)).met <;> simp [h1, h2]

/-- `evalCond` on the freshly initialised object is the condition outcome of the call. -/
theorem evalCond_init (w : World) (sp : FbSpec) :
    evalCond (initObj w sp) = match sp.cond with
      | .raises e => .error e
      | _ => .ok (condHeld sp) := by
  unfold evalCond condHeld initObj
  cases sp.cond <;> rfl

theorem condHeld_eq (w : World) (sp : FbSpec) :
    condHeld sp = match evalCond (initObj w sp) with
      | .ok b => b
      | .error _ => false := by
  rw [evalCond_init]
  unfold condHeld
  cases sp.cond <;> rfl

/-- **`bool(feedback)` is the outcome**: when nothing raised, the truth value is exactly whether the
    condition held; in general it is "held and nothing raised". -/
theorem c20_bool_is_outcome (O : Oracle) (w : World) (sp : FbSpec) (hd : sp.delay = false) :
    let r := construct O w sp
    (r.2.raised = none → r.2.obj.met = condHeld sp) ∧
    (r.2.obj.met = true ↔ condHeld sp = true ∧ r.2.raised = none) := by
  simp only [construct_eq O w sp hd, handle]
  rcases evalHandle_cases O w.fmtId w.avail w.store (initObj w sp) with
    ⟨_, _, h, hc, _⟩ | ⟨_, _, _, h, hc, _⟩ | ⟨_, _, h, _⟩
  · rw [h, condHeld_eq w sp, hc]; simp
  · rw [h, condHeld_eq w sp, hc]; simp
  · rw [h]; simp [failWith]

/-- **Error path.**  Whenever the constructor raises, the object sits in the untriggered list, not in the
    triggered one, with status `error`, truth value `False`, and the exception that reaches the caller
    is the one stored on the object; when it does not raise the status is active/inactive. -/
theorem c20_error_path (O : Oracle) (w : World) (sp : FbSpec) (hw : WorldOk w) (hd : sp.delay = false) :
    let r := construct O w sp
    (∀ e, r.2.raised = some e →
        r.2.obj.status = .error ∧ r.2.obj.met = false ∧ r.2.obj.exc = some e ∧
        r.2.obj.id ∈ r.1.ignored ∧ r.2.obj.id ∉ r.1.feedback) ∧
    (r.2.raised = none → (r.2.obj.status = .active ∧ r.2.obj.met = true) ∨
                          (r.2.obj.status = .inactive ∧ r.2.obj.met = false)) := by
  have hl := c20_right_list_iff_condition O w sp hw hd
  simp only [construct_eq O w sp hd, handle] at hl ⊢
  rcases evalHandle_cases O w.fmtId w.avail w.store (initObj w sp) with
    ⟨_, _, h, _⟩ | ⟨_, _, _, h, _⟩ | ⟨_, _, h, _⟩
  · rw [h]; exact ⟨fun _ he => (nomatch he), fun _ => .inl ⟨rfl, rfl⟩⟩
  · rw [h]; exact ⟨fun _ he => (nomatch he), fun _ => .inr ⟨rfl, rfl⟩⟩
  · rw [h] at hl ⊢
    exact ⟨fun _ he => ⟨rfl, rfl, he, hl.2.mpr rfl, fun hf => nomatch hl.1.mp hf⟩, fun he => nomatch he⟩

/-- A raising condition takes the error path with that very exception. -/
theorem c20_condition_raises (O : Oracle) (w : World) (sp : FbSpec) (hd : sp.delay = false) (e : Exc)
    (hc : sp.cond = .raises e) : (construct O w sp).2.raised = some e := by
  have hcond : evalCond (initObj w sp) = .error e := by rw [evalCond_init, hc]
  simp only [construct_eq O w sp hd, handle]
  rcases evalHandle_cases O w.fmtId w.avail w.store (initObj w sp) with
    ⟨_, _, _, h', _⟩ | ⟨_, _, _, _, h', _⟩ | ⟨_, _, h, he | ⟨_, h', _⟩⟩
  · cases hcond.symm.trans h'
  · cases hcond.symm.trans h'
  · cases hcond.symm.trans he
    rw [h]; rfl
  · cases hcond.symm.trans h'

/-- The justification step cannot raise when there is a justification or no template to render. -/
theorem getJustification_ok (O : Oracle) (F : String) (avail : List String) (s : Store) (o : FbObj) (met : Bool)
    (hj : o.justificationTemplate s = none ∨ (o.justification s).isSome = true) :
    ∃ j, getJustification O F avail s o met = .ok j := by
  unfold getJustification
  cases hjj : o.justification s with
  | some j => exact ⟨_, rfl⟩
  | none =>
    rcases hj with hj | hj
    · rw [hj]; exact ⟨_, rfl⟩
    · rw [hjj] at hj; cases hj

/-- A raising `_get_message` on a triggered feedback (justification given or defaulted, so that step
    cannot raise) takes the error path with that exception. -/
theorem c20_message_raises (O : Oracle) (w : World) (sp : FbSpec) (hd : sp.delay = false) (e : Exc)
    (hheld : condHeld sp = true) (hm : sp.msg = .raises e)
    (hj : (initObj w sp).justificationTemplate w.store = none ∨
          ((initObj w sp).justification w.store).isSome = true) :
    (construct O w sp).2.raised = some e := by
  have hmsg : getMessage O w.fmtId w.avail w.store (initObj w sp) = .error e := by
    unfold getMessage
    rw [initObj_msg, hm]
  obtain ⟨j, hjust⟩ := getJustification_ok O w.fmtId w.avail w.store (initObj w sp) true hj
  simp only [construct_eq O w sp hd, handle]
  rcases evalHandle_cases O w.fmtId w.avail w.store (initObj w sp) with
    ⟨_, _, _, _, hM⟩ | ⟨_, _, _, _, hc, _⟩ | ⟨_, _, h, hc | ⟨met, hc, hsrc⟩⟩
  · cases hmsg.symm.trans hM
  · rw [condHeld_eq w sp, hc] at hheld; cases hheld
  · rw [condHeld_eq w sp, hc] at hheld; cases hheld
  · rw [condHeld_eq w sp, hc] at hheld
    subst hheld
    rcases hsrc with hJ | ⟨_, hM⟩ | ⟨hf, _⟩
    · cases hjust.symm.trans hJ
    · cases hmsg.symm.trans hM
      rw [h]; rfl
    · cases hf

/-! ### the message -/

/-- What the message of a triggered feedback is, in terms of the object `__init__` set up. -/
theorem triggered_message (O : Oracle) (w : World) (sp : FbSpec) (hd : sp.delay = false)
    (hmet : (construct O w sp).2.obj.met = true) :
    getMessage O w.fmtId w.avail w.store (initObj w sp) = .ok ((construct O w sp).2.obj.message w.store) := by
  simp only [construct_eq O w sp hd, handle] at hmet ⊢
  rcases evalHandle_cases O w.fmtId w.avail w.store (initObj w sp) with
    ⟨_, _, h, _, hM⟩ | ⟨_, _, _, h, _⟩ | ⟨_, _, h, _⟩
  · rw [h]; exact hM
  · rw [h] at hmet; cases hmet
  · rw [h] at hmet; cases hmet

theorem init_message (w : World) (sp : FbSpec) :
    (initObj w sp).message w.store = (sp.message <|> classStr w.store sp.cls "message") := by
  unfold FbObj.message instOr initObj
  cases sp.message <;> rfl

theorem init_messageTemplate (w : World) (sp : FbSpec) :
    (initObj w sp).messageTemplate w.store = (sp.messageTemplate <|> classTmpl w.store sp.cls "message_template") := rfl

/-- **Message derivation**: explicit message (keyword, else class attribute) > template rendered over
    the fields through the formatter dispatch > the default constant. -/
theorem c20_message_derivation (O : Oracle) (w : World) (sp : FbSpec) (hd : sp.delay = false)
    (hdef : sp.msg = .default) (hmet : (construct O w sp).2.obj.met = true) :
    let explicit := sp.message <|> classStr w.store sp.cls "message"
    let template := sp.messageTemplate <|> classTmpl w.store sp.cls "message_template"
    let got := (construct O w sp).2.obj.message w.store
    (∀ m, explicit = some m → got = some m) ∧
    (explicit = none → ∀ t, template = some t →
        render O w.fmtId w.avail (initObj w sp).fields t = .ok (got.getD "") ∧ got.isSome = true) ∧
    (explicit = none → template = none → got = defaultFeedbackMessage) := by
  have h := triggered_message O w sp hd hmet
  revert h
  generalize (construct O w sp).2.obj.message w.store = got
  unfold getMessage defaultMessage
  rw [initObj_msg, hdef]
  rw [init_message, init_messageTemplate]
  intro h
  refine ⟨?_, ?_, ?_⟩
  · intro m he; rw [he] at h; injection h with h; exact h.symm
  · intro he t ht
    rw [he, ht] at h
    dsimp only at h
    split at h
    · rename_i r hr; injection h with h; subst h; exact ⟨hr, rfl⟩
    · cases h
  · intro he ht
    rw [he, ht] at h
    injection h with h; exact h.symm

/-- **Triggered ⇒ there is a message** (the invariant `HasMessages` that C02 assumes), unless an
    instructor-written `_get_message` itself returns `None`. -/
theorem c20_triggered_has_message (O : Oracle) (w : World) (sp : FbSpec) (hd : sp.delay = false)
    (hcustom : sp.msg ≠ .returns none)
    (hmet : (construct O w sp).2.obj.met = true) :
    ((construct O w sp).2.obj.message w.store).isSome = true := by
  have h := triggered_message O w sp hd hmet
  unfold getMessage at h
  rw [initObj_msg] at h
  cases hm : sp.msg with
  | default =>
    obtain ⟨h1, h2, h3⟩ := c20_message_derivation O w sp hd hm hmet
    cases he : sp.message <|> classStr w.store sp.cls "message" with
    | some m => rw [h1 m he]; rfl
    | none =>
      cases ht : sp.messageTemplate <|> classTmpl w.store sp.cls "message_template" with
      | some t => exact (h2 he t ht).2
      | none => rw [h3 he ht]; rfl
  | returns x =>
    rw [hm] at h
    cases x with
    | none => exact absurd hm hcustom
    | some _ => rw [← Except.ok.inj h]; rfl
  | raises e => rw [hm] at h; cases h

/-- An untriggered feedback delivers its else-message (explicit > template > default `None`). -/
theorem c20_untriggered_message (O : Oracle) (w : World) (sp : FbSpec) (hd : sp.delay = false)
    (hraise : (construct O w sp).2.raised = none) (hmet : (construct O w sp).2.obj.met = false) :
    (construct O w sp).2.obj.message w.store = (construct O w sp).2.obj.elseMessage w.store ∧
    getElseMessage O w.fmtId w.avail w.store (initObj w sp) = .ok ((construct O w sp).2.obj.elseMessage w.store) := by
  simp only [construct_eq O w sp hd, handle] at hraise hmet ⊢
  rcases evalHandle_cases O w.fmtId w.avail w.store (initObj w sp) with
    ⟨_, _, h, _⟩ | ⟨_, _, _, h, _, hE⟩ | ⟨_, _, h, _⟩
  · rw [h] at hmet; cases hmet
  · rw [h]; exact ⟨rfl, hE⟩
  · rw [h] at hraise; cases hraise

/-! ### format dispatch -/

/-- every entry of `available` names a callable method of `Formatter` -/
theorem c20_available_callable : availableCallable = available := rfl

/-- no entry of the list is a suffix of a LATER entry -/
def noEarlierSuffix : List String → Bool
  | [] => true
  | a :: rest => rest.all (fun b => !(endsWith b a)) && noEarlierSuffix rest

theorem available_noEarlierSuffix : noEarlierSuffix available = true := by decide +kernel

theorem endsWith_iff {spec word : String} : endsWith spec word = true ↔ word.toList <:+ spec.toList :=
  List.isSuffixOf_iff_suffix

theorem chomp_self (s : String) : chomp s s = "" := by
  simp [chomp, chompL]

/-- In a list where no entry is a suffix of a later one, an entry used as a spec finds itself. -/
theorem find_self (f : String) : ∀ (l : List String), noEarlierSuffix l = true → f ∈ l →
    l.find? (fun n => endsWith f n) = some f := by
  intro l
  induction l with
  | nil => exact fun _ h => nomatch h
  | cons a rest ih =>
    intro hno hf
    simp only [noEarlierSuffix, Bool.and_eq_true, List.all_eq_true] at hno
    rw [List.find?_cons]
    rcases List.mem_cons.mp hf with rfl | hf
    · rw [show endsWith f f = true from endsWith_iff.mpr (List.suffix_refl _)]
    · rw [show endsWith f a = false by simpa using hno.1 f hf]
      exact ih hno.2 hf

theorem dispatch_self {l : List String} (hl : noEarlierSuffix l = true) {f : String} (hf : f ∈ l) :
    dispatch l f = some (f, "") := by
  rw [dispatch, find_self f l hl hf, Option.map_some, chomp_self]

/-- The first listed name a spec ends with is the longest one: a later match and the first one are both
    suffixes of the spec, and the first is not a suffix of the later. -/
theorem find_longest (spec : String) : ∀ (l : List String), noEarlierSuffix l = true → ∀ n,
    l.find? (fun n => endsWith spec n) = some n →
    ∀ f ∈ l, endsWith spec f = true → f.toList <:+ n.toList := by
  intro l
  induction l with
  | nil => exact fun _ _ h => nomatch h
  | cons a rest ih =>
    intro hno n hfind f hf hsuf
    simp only [noEarlierSuffix, Bool.and_eq_true, List.all_eq_true] at hno
    rw [List.find?_cons] at hfind
    cases ha : endsWith spec a with
    | true =>
      rw [ha] at hfind
      cases hfind
      rcases List.mem_cons.mp hf with rfl | hf
      · exact List.suffix_refl _
      · refine (List.suffix_or_suffix_of_suffix (endsWith_iff.mp ha) (endsWith_iff.mp hsuf)).resolve_left fun h => ?_
        have := hno.1 f hf
        rw [endsWith_iff.mpr h] at this
        cases this
    | false =>
      rw [ha] at hfind
      rcases List.mem_cons.mp hf with rfl | hf
      · cases ha.symm.trans hsuf
      · exact ih hno.2 n hfind f hf hsuf
theorem dispatch_longest {l : List String} (hl : noEarlierSuffix l = true) {spec n rest : String}
    (h : dispatch l spec = some (n, rest)) :
    n ∈ l ∧ endsWith spec n = true ∧ rest = chomp spec n ∧
    ∀ f ∈ l, endsWith spec f = true → f.toList <:+ n.toList := by
  unfold dispatch at h
  cases hf : l.find? (fun n => endsWith spec n) with
  | none => rw [hf] at h; cases h
  | some m =>
    rw [hf] at h
    cases h
    exact ⟨List.mem_of_find?_eq_some hf, List.find?_some hf, rfl, find_longest spec l hl _ hf⟩

/-- **Dispatch is exact on the generated table**: the spec `f` selects formatter `f` (no earlier entry
    of `Formatter.available` is a suffix of it) and nothing of the spec is left over. -/
theorem c20_format_dispatch_exact : ∀ f ∈ available, dispatch available f = some (f, "") :=
  fun _ => dispatch_self available_noEarlierSuffix

/-- **For every spec** the dispatch picks a listed formatter the spec ends with, passes on exactly the
    chomped remainder, and the pick is the most specific one: every other listed name the spec ends
    with is a suffix of the chosen name (`"…filename"` selects `filename`, not `name`). -/
theorem c20_format_dispatch_longest (spec n rest : String) (h : dispatch available spec = some (n, rest)) :
    n ∈ available ∧ endsWith spec n = true ∧ rest = chomp spec n ∧
    ∀ f ∈ available, endsWith spec f = true → f.toList <:+ n.toList :=
  dispatch_longest available_noEarlierSuffix h

/-- no listed formatter matches ⇒ the value is formatted plainly with the whole spec -/
theorem c20_format_plain (O : Oracle) (F : String) (spec : String) (v : FVal) (acc : String)
    (h : ∀ f ∈ available, endsWith spec f = false) :
    renderField O F available v acc "" spec = O (.plain v acc spec) := by
  unfold renderField primOf dispatch
  have : available.find? (fun n => endsWith spec n) = none := by
    apply List.find?_eq_none.mpr
    intro f hf; simp [h f hf]
  simp [this]

/-- a matching spec calls exactly the selected formatter method on the field's value -/
theorem c20_format_applies (O : Oracle) (F : String) (avail : List String) (spec n rest : String) (v : FVal) (acc : String)
    (h : dispatch avail spec = some (n, rest)) :
    renderField O F avail v acc "" spec = O (.fmt F n v acc rest) := by
  unfold renderField primOf
  simp [h]

/-! ### override / restore -/

/-- **Every overridden class attribute is restored**, for every class hierarchy (`mro` arbitrary), every
    history of `override(...)` / `clear()` calls (including overrides that fail half-way with an
    AttributeError), and whatever order the final clear visits the registered classes in:
    every class dictionary — hence every attribute lookup — is what it was at the start. -/
theorem c20_override_restored (s0 : Store) (hp : s0.Pristine) (h : List Store.Op) (order : List String)
    (hcover : ∀ c ∈ (s0.runAll h).overridden, c ∈ order) :
    ((s0.runAll h).clearIn order).own = s0.own ∧
    (∀ c a, ((s0.runAll h).clearIn order).lookup c a = s0.lookup c a) ∧
    ((s0.runAll h).clearIn order).Pristine := by
  obtain ⟨ho, hm, hpr⟩ := Store.clearIn_restores (Store.runAll_inv s0 hp h) order hcover
  exact ⟨ho, fun c a => Store.lookup_congr _ _ ho hm c a, hpr⟩

/-- the report's own `clear()` (visiting `overridden_feedbacks` itself) is one such order -/
theorem c20_clear_restores (s0 : Store) (hp : s0.Pristine) (h : List Store.Op) (c a : String) :
    (s0.runAll (h ++ [.clear])).lookup c a = s0.lookup c a := by
  have := (c20_override_restored s0 hp h (s0.runAll h).overridden (fun _ hc => hc)).2.1 c a
  simpa [Store.runAll, Store.step, Store.clear] using this

/-! ### non-vacuity -/

def exStore : Store :=
  { mro := fun c => if c = "B" then ["B", "A"] else [c]
    own := fun c a => if c = "A" ∧ a = "title" then some (.str "T") else none
    backups := fun _ => none
    overridden := [] }

example : exStore.Pristine := ⟨fun _ => rfl, rfl⟩

/-- base then subclass overridden, then cleared: both lookups are back (the pinned tree leaked here) -/
example : let s := exStore.runAll [.override "A" [("title", .str "X")], .override "B" [("title", .str "Y")]]
    s.lookup "A" "title" = some (.str "X") ∧ s.lookup "B" "title" = some (.str "Y") ∧
    s.clear.lookup "A" "title" = some (.str "T") ∧ s.clear.lookup "B" "title" = some (.str "T") := by decide +kernel

def exWorld : World :=
  { store := exStore, fmtId := "default", avail := available, feedback := [], ignored := [], groups := [], childLog := [], nextId := 0 }

def exOracle : Oracle := fun _ => .ok "v"
def keyError : Exc := ⟨"KeyError"⟩

example : (construct exOracle exWorld { cls := "A" }).1.feedback = [0] := by decide +kernel
example : (construct exOracle exWorld { cls := "A", activate := false }).1.ignored = [0] := by decide +kernel
example : (construct exOracle exWorld { cls := "A", cond := .raises keyError }).2.raised = some keyError := by decide +kernel
def exSpec : FbSpec :=
  { cls := "A", messageTemplate := some [.lit "a", .field "x" "" "" "name"], kwargs := [("x", "t0")] }
example : (construct exOracle exWorld exSpec).2.obj.message exStore = some "av" := by decide +kernel
example : (construct exOracle exWorld { cls := "A", messageTemplate := some [.field "nope" "" "" ""] }).2.raised
    = some keyError := by decide +kernel
example : dispatch available "filename" = some ("filename", "") := by decide +kernel
example : dispatch available ">8:name" = some ("name", ">8") := by decide +kernel

end Pedal.FeedbackCore
