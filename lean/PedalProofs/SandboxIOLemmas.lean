import PedalModel.SandboxIO
/-
Helper lemmas for C15: what `runEvents` leaves in the StringIO / returns from `input()`,
and the declarative ("ghost") reading of a history that the property theorems refer to.
-/
namespace Pedal.SandboxIO
open Pedal.Gen.SandboxIO

/-- Everything an execution writes to standard output: the text of every write and, when
`input` is served by pedal's queue/default (not by an installed callable), every prompt
followed by a newline (`print(prompt)`). -/
def written (callable : Bool) : List Event → Str
  | [] => []
  | .write t :: es => t ++ written callable es
  | .read p :: es => if callable then written callable es else p ++ ['\n'] ++ written callable es
  | .readKept p :: es => if callable then written callable es else p ++ ['\n'] ++ written callable es

/-- calls of `input`, through whatever reference (the property counts them alike) -/
def nReads : List Event → Nat
  | [] => 0
  | .write _ :: es => nReads es
  | .read _ :: es => nReads es + 1
  | .readKept _ :: es => nReads es + 1

/-- OBLIGATION ON THE GENERATED FILE: the mocked `input` resolves the sandbox's queue each time it
is called (read from the source and measured with kept references + a rebound queue).  A tracker
that captures the queue object when it is created fails here. -/
theorem lookup_at_call : queueLookup = Lookup.atCall := rfl

/-- OBLIGATION ON THE GENERATED FILE.  Whatever shape the translated guard of `append_output`
has, on every observation (raw output so far empty or not, own text empty or not) it is
defined (nothing in it is `unknown`) and its value is "the own text is non-empty".  A guard on
the accumulated output, no guard, or an expression the translator could not read fails here. -/
theorem guard_sem (p o : Bool) : evalGuard appendGuard p o = some o := by
  cases p <;> cases o <;> rfl

theorem guardHolds_own (prior own : Str) : guardHolds prior own = !own.isEmpty := by
  simp [guardHolds, guard_sem]

/-- OBLIGATION ON THE GENERATED FILE: the default input was established (read or measured). -/
theorem default_known : defaultKnown = true := rfl

/-- OBLIGATION ON THE GENERATED FILE: the mocked `input` takes the FRONT of the queue. -/
theorem pop_front : popEnd = PopEnd.front := rfl

theorem keptIsLive_true : keptIsLive = true := by
  simp [keptIsLive, lookup_at_call]

/-- A call of `input` through a reference kept from an earlier execution is served exactly like a
call through the current one: same queue, same record, same echo. -/
theorem runEvents_readKept (src : InputSrc) (p : Str) (es : List Event) :
    runEvents src (.readKept p :: es) = runEvents src (.read p :: es) := by
  cases src <;> simp [runEvents, keptIsLive_true]

@[simp] theorem out_buf (t : Str) (r : Res) : (r.out t).buf = t ++ r.buf := rfl
@[simp] theorem out_src (t : Str) (r : Res) : (r.out t).src = r.src := rfl
@[simp] theorem out_got (t : Str) (r : Res) : (r.out t).got = r.got := rfl
@[simp] theorem inp_buf (v : Str × Bool) (r : Res) : (r.inp v).buf = r.buf := rfl
@[simp] theorem inp_src (v : Str × Bool) (r : Res) : (r.inp v).src = r.src := rfl
@[simp] theorem inp_got (v : Str × Bool) (r : Res) : (r.inp v).got = v :: r.got := rfl

theorem popQueue_nil : popQueue [] = none := rfl
theorem popQueue_cons (x : Str) (q : List Str) : popQueue (x :: q) = some (x, q) := rfl

/-- One execution that starts with queue `q`: FIFO / once / default, the prompts echoed. -/
theorem runEvents_queue (q : List Str) (tr : List Event) :
    runEvents (.queue q) tr =
      { src := .queue (q.drop (nReads tr)), buf := written false tr,
        got := (q.take (nReads tr)).map (·, true) ++ List.replicate (nReads tr - q.length) (defaultStr, false) } := by
  induction tr generalizing q with
  | nil => simp [runEvents, nReads, written]
  | cons e es ih =>
    cases e with
    | write t => simp [runEvents, nReads, written, ih, Res.out]
    | read p | readKept p =>
      cases q with
      | nil =>
        simp [runEvents, keptIsLive_true, popQueue_nil, nReads, written, ih, Res.out, Res.inp, List.replicate_succ]
      | cons x q => simp [runEvents, keptIsLive_true, popQueue_cons, nReads, written, ih, Res.out, Res.inp]

/-- An execution never changes the kind of the input source; a callable's prompts are not echoed. -/
theorem runEvents_callable (f : Callable) (tr : List Event) :
    (runEvents (.callable f) tr).src = .callable f ∧ (runEvents (.callable f) tr).buf = written true tr := by
  induction tr with
  | nil => exact ⟨rfl, rfl⟩
  | cons e es ih => cases e <;> simpa [runEvents, keptIsLive_true, written] using ih

/-- The execution's StringIO holds exactly what was written (whatever the queue holds). -/
theorem runEvents_buf (src : InputSrc) (tr : List Event) :
    (runEvents src tr).buf = written src.isCallable tr := by
  cases src with
  | queue q => rw [runEvents_queue]; rfl
  | callable f => exact (runEvents_callable f tr).2

/-- the flags on returned values: popped values are exactly the first `min n |q|`. -/
theorem runEvents_popped (q : List Str) (tr : List Event) :
    ((runEvents (.queue q) tr).got.filter (·.2)).map Prod.fst = q.take (nReads tr) := by
  simp [runEvents_queue, -List.map_take, List.filter_map, Function.comp_def]

/-! ### one operation -/

theorem run_snoc (s : St) (ops : List Op) (op : Op) : run s (ops ++ [op]) = step (run s ops) op := by
  simp [run, List.foldl_append]

theorem step_exec {s : St} {pre : Option InputArg} {tr : List Event} {src : InputSrc}
    (h : execSrc s.inputs pre = some src) :
    step s (.exec pre tr) =
      { raw := s.raw ++ written src.isCallable tr
        lines := s.lines ++ if (written src.isCallable tr).isEmpty then [] else linesOf (written src.isCallable tr)
        inputs := (runEvents src tr).src
        contexts := s.contexts ++ [⟨written src.isCallable tr, (runEvents src tr).got.map Prod.fst⟩] } := by
  simp only [step, stepE, h, appendOutput, guardHolds_own, runEvents_buf, Option.getD_some]
  cases (written src.isCallable tr).isEmpty <;> simp

/-! ### declarative reading of a history -/

/-- The shares of the executions of a history: `since` — those after the last
`clear_output`, `all` — every execution, both in order. -/
structure Ghost where
  since : List Str
  all : List Str

def Ghost.init : Ghost := ⟨[], []⟩

def gstep (s : St) (g : Ghost) : Op → Ghost
  | .exec pre tr =>
    match execSrc s.inputs pre with
    | none => g          -- `inputs=` made set_input raise: nothing was executed
    | some src =>
      let w := written src.isCallable tr
      ⟨g.since ++ [w], g.all ++ [w]⟩
  | .clearOutput => ⟨[], g.all⟩
  | _ => g

def grun : St → Ghost → List Op → St × Ghost
  | s, g, [] => (s, g)
  | s, g, op :: ops => grun (step s op) (gstep s g op) ops

theorem grun_fst (s : St) (g : Ghost) (ops : List Op) : (grun s g ops).1 = run s ops := by
  induction ops generalizing s g with
  | nil => rfl
  | cons op ops ih => exact ih _ _

/-- the entries the line view should hold for a list of shares -/
def viewOf (shares : List Str) : List Str :=
  (shares.filter fun w => !w.isEmpty).flatMap linesOf

theorem viewOf_snoc (l : List Str) (w : Str) :
    viewOf (l ++ [w]) = viewOf l ++ (if w.isEmpty then [] else linesOf w) := by
  unfold viewOf
  cases h : w.isEmpty <;> simp [List.filter_append, h]

structure Inv (s : St) (g : Ghost) : Prop where
  raw : s.raw = g.since.flatten
  lines : s.lines = viewOf g.since
  ctxs : s.contexts.map Ctx.output = g.all

theorem inv_init : Inv init Ghost.init := ⟨rfl, rfl, rfl⟩

theorem inv_step (s : St) (g : Ghost) (op : Op) (h : Inv s g) : Inv (step s op) (gstep s g op) := by
  cases op with
  | exec pre tr =>
    cases hsrc : execSrc s.inputs pre with
    | none => simpa [step, stepE, gstep, hsrc] using h
    | some src =>
      rw [step_exec hsrc]
      simp only [gstep, hsrc]
      exact ⟨by simp [h.raw], by simp [h.lines, viewOf_snoc], by simp [h.ctxs]⟩
  | clearOutput => exact ⟨rfl, rfl, h.ctxs⟩
  | setInput a c | queueInput vs | clearInput =>
    -- whether `set_input` raises or not, only the input source can have changed
    simp only [step, stepE, gstep]
    generalize setInput s.inputs _ _ = i
    cases i <;> exact ⟨h.raw, h.lines, h.ctxs⟩

theorem inv_grun (s : St) (g : Ghost) (ops : List Op) (h : Inv s g) :
    Inv (grun s g ops).1 (grun s g ops).2 := by
  induction ops generalizing s g with
  | nil => exact h
  | cons op ops ih => exact ih _ _ (inv_step s g op h)

end Pedal.SandboxIO
