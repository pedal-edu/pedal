import PedalModel.AssertionsSpec
/-
C07 — facts about the hand-written relations and the evaluator that do NOT depend on the generated
conditions (PedalModel/Gen/AssertionConds.lean): they are not rebuilt when the tree under test changes.
PedalProofs/AssertionsLemmas.lean and PedalProofs/C07.lean build on them.  Core Lean only.
-/
namespace Pedal.Assertions

/-! ### shape-independent evaluation of a generated condition

The per-assertion theorems of PedalProofs/C07.lean do not compare the generated `CondExpr` with an
expected term.  They UNFOLD `eval` on whatever the translator produced (the local simp set of that file), split on the
finitely many observations the specified relation depends on (the answer of `pyCmp` / `pyIn` /
`eqTest` / `re.search` ..., whether an operand is proxied) and let `simp` compute both sides.  So
every condition with the same meaning is accepted - early return or `or`, a conditional expression,
`not (a in b)` or `a not in b`, `unwrap_value(x)` or `x._actual_value if x.is_sandboxed else x`,
locals and helpers inlined by the translator - and every condition with another meaning leaves an
unprovable goal.  The lemmas below are the rewriting rules that unfolding needs. -/

theorem V.unwrapped_v (x : V) : x.unwrapped.v = x.v := rfl
theorem V.unwrapped_px (x : V) : x.unwrapped.px = false := rfl
theorem V.unwrapped_oid (x : V) : x.unwrapped.oid = x.oid := rfl
theorem V.unwrapped_unwrapped (x : V) : x.unwrapped.unwrapped = x.unwrapped := rfl
theorem V.fresh_v (a : PyVal) : (V.fresh a).v = a := rfl
theorem V.fresh_px (a : PyVal) : (V.fresh a).px = false := rfl
theorem V.ofBool_v (b : Bool) : (V.ofBool b).v = .bool b := rfl
theorem V.ofBool_px (b : Bool) : (V.ofBool b).px = false := rfl
theorem truthy_bool (b : Bool) : truthy (.bool b) = b := rfl

/-- a needle that is not a proxy -/
theorem vIn_raw (x y : V) (h : x.px = false) : vIn x y = pyIn x.v y.v := by
  unfold vIn
  split
  · rw [if_neg (by rw [h]; exact Bool.false_ne_true)]
  · rfl

theorem vIn_unwrapped (x y : V) : vIn x.unwrapped y = pyIn x.v y.v := vIn_raw x.unwrapped y rfl

theorem vIn_fresh (a : PyVal) (y : V) : vIn (V.fresh a) y = pyIn a y.v := vIn_raw (V.fresh a) y rfl

theorem pyIn_str (n h : List Nat) : pyIn (.str n) (.str h) = .ok (isSubstr n h) := rfl

/-- `is` between two things neither of which is a proxy object is `is` on the underlying objects -/
theorem pyIs_raw (a b : V) (ha : a.px = false) (hb : b.px = false) : pyIs a b = sameObject a b := by
  unfold sameObject pyIs
  simp [V.unwrapped, ha, hb]

theorem pyIs_unwrapped_unwrapped (a b : V) : pyIs a.unwrapped b.unwrapped = sameObject a b := rfl

theorem pyIs_unwrapped_raw (a b : V) (hb : b.px = false) : pyIs a.unwrapped b = sameObject a b :=
  pyIs_raw a.unwrapped b rfl hb

theorem pyIs_raw_unwrapped (a b : V) (ha : a.px = false) : pyIs a b.unwrapped = sameObject a b :=
  pyIs_raw a b.unwrapped ha rfl

theorem sameObject_unwrapped_left (a b : V) : sameObject a.unwrapped b = sameObject a b := rfl
theorem sameObject_unwrapped_right (a b : V) : sameObject a b.unwrapped = sameObject a b := rfl

theorem pyIs_none_right (x : V) (h : x.px = false) : pyIs x (V.fresh .none) = isNoneVal x.v := by
  unfold pyIs
  cases hv : x.v <;> simp [V.fresh, h, isNoneVal]

theorem pyIs_none_left (x : V) (h : x.px = false) : pyIs (V.fresh .none) x = isNoneVal x.v := by
  unfold pyIs
  cases hv : x.v <;> simp [V.fresh, h, isNoneVal]

theorem pyIs_none_right_unwrapped (x : V) : pyIs x.unwrapped (V.fresh .none) = isNoneVal x.v :=
  pyIs_none_right x.unwrapped rfl

theorem pyIs_none_left_unwrapped (x : V) : pyIs (V.fresh .none) x.unwrapped = isNoneVal x.v :=
  pyIs_none_left x.unwrapped rfl

theorem notR_notR (r : Res Bool) : notR (notR r) = r := by
  cases r with
  | error e => rfl
  | ok b => cases b <;> rfl

theorem beq_exact_exact : ("exact_strings" == "exact_strings") = true := by decide
theorem beq_delta_exact : ("delta" == "exact_strings") = false := by decide
theorem beq_delta_delta : ("delta" == "delta") = true := by decide

theorem ord4Test_lt (o : Ord4) : ord4Test "lt" o = (o == .lt) := rfl
theorem ord4Test_le (o : Ord4) : ord4Test "le" o = (o == .lt || o == .eq) := rfl
theorem ord4Test_gt (o : Ord4) : ord4Test "gt" o = (o == .gt) := rfl
theorem ord4Test_ge (o : Ord4) : ord4Test "ge" o = (o == .gt || o == .eq) := rfl

theorem numClose_comm (a b d : Int × Nat) : numClose a b d = numClose b a d := by
  unfold numClose
  have h : (a.1 * (2:Int) ^ b.2 - b.1 * (2:Int) ^ a.2).natAbs = (b.1 * (2:Int) ^ a.2 - a.1 * (2:Int) ^ b.2).natAbs := by
    rw [← Int.natAbs_neg, Int.neg_sub]
  rw [h, Nat.add_comm a.2 b.2]

theorem numEq_comm (a b : Int × Nat) : numEq a b = numEq b a := by
  unfold numEq
  exact BEq.comm

/-- the widened class of assert_is_instance, as the condition computes it with two `==` -/
theorem widenCls_eq (v : PyVal) :
    widenCls v = if pyEq v (.typ .int) || pyEq v (.typ .float) then .tuple [.typ .int, .typ .float] else v := by
  rw [pyEq.eq_def, pyEq.eq_def]
  cases v with
  | typ t => cases t <;> rfl
  | _ => rfl

/-- `x == n` and `n == x` for an int `n` (so `length.value == len(seq)` reads like `len(seq) == length.value`) -/
theorem pyEq_comm_int (r : PyVal) (n : Int) : pyEq r (.int n) = pyEq (.int n) r := by
  rw [pyEq.eq_def, pyEq.eq_def (.int n)]
  cases r <;> first | rfl | exact numEq_comm _ _

theorem numCmp_ne_un (a b : Int × Nat) : numCmp a b ≠ .un := by
  unfold numCmp
  simp only
  split
  · simp
  · split <;> simp

/-- an int is never unordered with anything -/
theorem pyCmp_int_left (n : Int) (r : PyVal) : pyCmp (.int n) r ≠ .ok .un := by
  cases r <;> simp [pyCmp, num?, numCmp_ne_un]

/-! ### numbers and strings under `equality_test` -/

theorem pyEq_num (a e : PyVal) (x y : Int × Nat) (ha : num? a = some x) (he : num? e = some y) :
    pyEq a e = numEq x y := by
  rw [pyEq.eq_def]
  cases a <;> cases ha <;> cases e <;> cases he <;> rfl

/-- `equality_test` on two numbers: the tolerance test as soon as either is a float, else `==`. -/
theorem eqTest_num (ex : Bool) (d : Int × Nat) (a e : PyVal) (x y : Int × Nat)
    (ha : num? a = some x) (he : num? e = some y) :
    eqTest ex (some d) a e = .ok (if isFloat a || isFloat e then numClose y x d else numEq x y) := by
  rw [eqTest.eq_def]
  cases a <;> cases ha <;> cases e <;> cases he <;> first | rfl | exact congrArg _ (pyEq_num _ _ _ _ rfl rfl)

/-- `equality_test` on two strings: exact, or equality of the normal forms. -/
theorem eqTest_str (ex : Bool) (d : Option (Int × Nat)) (sa se : List Nat) :
    eqTest ex d (.str sa) (.str se) =
      if ex then .ok (sa == se)
      else if isAscii sa && isAscii se then .ok (normStr se == normStr sa) else .error .unmodelled := by
  rw [eqTest.eq_def]; rfl

theorem lowerC_idem (c : Nat) : lowerC (lowerC c) = lowerC c := by
  unfold lowerC
  by_cases h : 65 ≤ c ∧ c ≤ 90
  · have h2 : ¬ (65 ≤ c + 32 ∧ c + 32 ≤ 90) := by omega
    rw [if_pos h, if_neg h2]
  · rw [if_neg h, if_neg h]

/-! ### symmetry of `==` and `equality_test` on scalars, lists and tuples (induction on size) -/

mutual
/-- values built from scalars (ASCII strings), lists and tuples only -/
def seqOnly : PyVal → Bool
  | .list xs => seqOnlyList xs
  | .tuple xs => seqOnlyList xs
  | .set _ => false
  | .dict _ _ => false
  | .str s => isAscii s
  | _ => true
def seqOnlyList : List PyVal → Bool
  | [] => true
  | x :: xs => seqOnly x && seqOnlyList xs
end

theorem seqOnlyList_mem (xs : List PyVal) (h : seqOnlyList xs = true) : ∀ x ∈ xs, seqOnly x = true := by
  induction xs with
  | nil => intro x hx; cases hx
  | cons y ys ih =>
    simp only [seqOnlyList, Bool.and_eq_true] at h
    intro x hx
    cases hx with
    | head => exact h.1
    | tail _ hm => exact ih h.2 x hm

theorem pyEqList_symm (xs ys : List PyVal) (h : ∀ x ∈ xs, ∀ y ∈ ys, pyEq x y = pyEq y x) :
    pyEqList xs ys = pyEqList ys xs := by
  induction xs generalizing ys with
  | nil => cases ys <;> simp [pyEqList]
  | cons x xs ih =>
    cases ys with
    | nil => simp [pyEqList]
    | cons y ys =>
      simp only [pyEqList]
      rw [h x (List.mem_cons_self) y (List.mem_cons_self)]
      rw [ih ys (fun a ha b hb => h a (List.mem_cons_of_mem _ ha) b (List.mem_cons_of_mem _ hb))]

theorem eqTest_list (ex : Bool) (d : Option (Int × Nat)) (xs ys : List PyVal) :
    eqTest ex d (.list xs) (.list ys) =
      if pyEq (.list xs) (.list ys) then .ok true
      else if xs.length != ys.length then .ok false else eqSeq ex d xs ys := by
  rw [eqTest.eq_def]; rfl

theorem eqTest_tuple (ex : Bool) (d : Option (Int × Nat)) (xs ys : List PyVal) :
    eqTest ex d (.tuple xs) (.tuple ys) =
      if pyEq (.tuple xs) (.tuple ys) then .ok true
      else if xs.length != ys.length then .ok false else eqSeq ex d xs ys := by
  rw [eqTest.eq_def]; rfl

/-- Induction on a pair of `seqOnly` values: for two lists or two tuples the claim may be assumed for every
    pair of their elements. -/
theorem seqOnly_pair_induction {P : PyVal → PyVal → Prop}
    (step : ∀ a e, seqOnly a = true → seqOnly e = true →
      (∀ xs ys, a = .list xs ∧ e = .list ys ∨ a = .tuple xs ∧ e = .tuple ys → ∀ x ∈ xs, ∀ y ∈ ys, P x y) → P a e)
    (a e : PyVal) (ha : seqOnly a = true) (he : seqOnly e = true) : P a e := by
  induction hn : sizeOf a + sizeOf e using Nat.strongRecOn generalizing a e with
  | _ n ih =>
    refine step a e ha he fun xs ys hxy x hx y hy => ?_
    have hx' := List.sizeOf_lt_of_mem hx
    have hy' := List.sizeOf_lt_of_mem hy
    subst hn
    rcases hxy with ⟨rfl, rfl⟩ | ⟨rfl, rfl⟩ <;>
      exact ih _ (by simp only [PyVal.list.sizeOf_spec, PyVal.tuple.sizeOf_spec]; omega) x y
        (seqOnlyList_mem _ ha x hx) (seqOnlyList_mem _ he y hy) rfl

/-- `==` does not depend on the argument order (sets and dicts apart: that needs their elements to be distinct). -/
theorem pyEq_symm (a e : PyVal) (ha : seqOnly a = true) (he : seqOnly e = true) : pyEq a e = pyEq e a := by
  refine seqOnly_pair_induction (P := fun a e => pyEq a e = pyEq e a) (fun a e ha he ih => ?_) a e ha he
  -- unfolded once here, so that every pair of constructors below reduces by computation
  rw [pyEq.eq_def a e, pyEq.eq_def e a]
  cases a
  case set | dict => cases ha
  all_goals cases e
  case list.list xs ys => exact pyEqList_symm xs ys (ih xs ys (.inl ⟨rfl, rfl⟩))
  case tuple.tuple xs ys => exact pyEqList_symm xs ys (ih xs ys (.inr ⟨rfl, rfl⟩))
  all_goals first | rfl | exact BEq.comm | exact numEq_comm _ _ | cases he

theorem eqTest_num_symm (ex : Bool) (d : Int × Nat) (a e : PyVal) (x y : Int × Nat)
    (ha : num? a = some x) (he : num? e = some y) : eqTest ex (some d) a e = eqTest ex (some d) e a := by
  rw [eqTest_num ex d a e x y ha he, eqTest_num ex d e a y x he ha]
  rw [numClose_comm y x d, numEq_comm y x, Bool.or_comm (isFloat e) (isFloat a)]

theorem eqTest_str_symm (ex : Bool) (d : Option (Int × Nat)) (sa se : List Nat) :
    eqTest ex d (.str sa) (.str se) = eqTest ex d (.str se) (.str sa) := by
  rw [eqTest_str, eqTest_str, Bool.and_comm (isAscii sa) (isAscii se)]
  have h1 : (sa == se) = (se == sa) := BEq.comm
  have h2 : (normStr se == normStr sa) = (normStr sa == normStr se) := BEq.comm
  rw [h1, h2]

/-! ### on scalars, lists and tuples `equality_test` never raises and does not depend on the argument order -/

theorem eqSeq_both (ex : Bool) (d : Option (Int × Nat)) (xs ys : List PyVal)
    (h : ∀ x ∈ xs, ∀ y ∈ ys, ∃ b, eqTest ex d x y = .ok b ∧ eqTest ex d y x = .ok b) :
    ∃ b, eqSeq ex d xs ys = .ok b ∧ eqSeq ex d ys xs = .ok b := by
  induction xs generalizing ys with
  | nil => cases ys <;> exact ⟨true, by simp [eqSeq]⟩
  | cons x xs ih =>
    cases ys with
    | nil => exact ⟨true, by simp [eqSeq]⟩
    | cons y ys =>
      obtain ⟨b, h1, h2⟩ := h x List.mem_cons_self y List.mem_cons_self
      simp only [eqSeq, h1, h2]
      cases b
      · exact ⟨false, rfl, rfl⟩
      · exact ih ys fun a ha b hb => h a (List.mem_cons_of_mem _ ha) b (List.mem_cons_of_mem _ hb)

/-- the shape shared by the list and the tuple branch of `equality_test` -/
theorem eqTest_seq_both {p q : Bool} {n m : Nat} {r r' : Res Bool} (hp : p = q)
    (h : ∃ b, r = .ok b ∧ r' = .ok b) :
    ∃ b, (if p then .ok true else if n != m then .ok false else r) = .ok b ∧
      (if q then .ok true else if m != n then .ok false else r') = .ok b := by
  subst hp
  rw [show (m != n) = (n != m) from congrArg not BEq.comm]
  cases p <;> cases n != m <;> first | exact h | exact ⟨_, rfl, rfl⟩

theorem eqTest_str_both (ex : Bool) (d : Option (Int × Nat)) (sa se : List Nat) (ha : isAscii sa = true)
    (he : isAscii se = true) :
    ∃ b, eqTest ex d (.str sa) (.str se) = .ok b ∧ eqTest ex d (.str se) (.str sa) = .ok b := by
  rw [eqTest_str_symm ex d se sa, eqTest_str, ha, he]
  cases ex <;> exact ⟨_, rfl, rfl⟩

/-- Both orders of the arguments give the same answer, and it is an answer: on values built from None, bools,
    ints, floats, ASCII strings, classes, objects, lists and tuples (with a delta). -/
theorem eqTest_seqOnly (ex : Bool) (d : Int × Nat) (a e : PyVal) (ha : seqOnly a = true)
    (he : seqOnly e = true) : ∃ b, eqTest ex (some d) a e = .ok b ∧ eqTest ex (some d) e a = .ok b := by
  refine seqOnly_pair_induction
    (P := fun a e => ∃ b, eqTest ex (some d) a e = .ok b ∧ eqTest ex (some d) e a = .ok b)
    (fun a e ha he ih => ?_) a e ha he
  have hpe := pyEq_symm a e ha he
  rw [eqTest.eq_def ex _ a e, eqTest.eq_def ex _ e a]
  cases a
  case set | dict => cases ha
  all_goals cases e
  case list.list xs ys => exact eqTest_seq_both hpe (eqSeq_both ex _ xs ys (ih xs ys (.inl ⟨rfl, rfl⟩)))
  case tuple.tuple xs ys => exact eqTest_seq_both hpe (eqSeq_both ex _ xs ys (ih xs ys (.inr ⟨rfl, rfl⟩)))
  case str.str sa se => rw [← eqTest.eq_def, ← eqTest.eq_def]; exact eqTest_str_both ex _ sa se ha he
  -- the remaining pairs compute: a tolerance test if a float is involved, `==` otherwise
  all_goals first
    | exact ⟨_, rfl, congrArg _ hpe.symm⟩
    | exact ⟨_, rfl, congrArg _ (numClose_comm _ _ _)⟩
    | cases he

/-! ### stripping the proxies does not change what a relation says -/

/-- Strip the proxies from both operands. -/
def Ctx.unwrapAll (c : Ctx) : Ctx := { c with left := c.left.unwrapped, right := c.right.unwrapped }

theorem rel_unwrapAll (name : String) (rel : Ctx → Res Bool) (h : relOf name = some rel) (c : Ctx) :
    rel c.unwrapAll = rel c := by
  unfold relOf at h
  split at h <;> cases h <;> rfl

/-! ### the names the property is proved for, and the pairs of an assertion with its negation -/

/-- The assertions whose conditions are proved correct (all of the property's list except
    assert_type / assert_not_type, which go through pedal's type system and are only sampled). -/
def provedNames : List String :=
  ["assert_less", "assert_less_equal", "assert_greater", "assert_greater_equal", "assert_in", "assert_not_in", "assert_contains_subset", "assert_not_contains_subset", "assert_is", "assert_is_not", "assert_is_none", "assert_is_not_none", "assert_true", "assert_false", "assert_length_equal", "assert_length_not_equal", "assert_length_less", "assert_length_less_equal", "assert_length_greater", "assert_length_greater_equal", "assert_is_instance", "assert_not_is_instance", "assert_equal", "assert_not_equal", "assert_almost_equal", "assert_not_almost_equal", "assert_regex", "assert_not_regex", "assert_output", "assert_prints", "assert_not_output", "assert_output_contains", "assert_not_output_contains", "assert_output_regex", "assert_not_output_regex"]

def negationPairs : List (String × String) :=
  [("assert_equal", "assert_not_equal"), ("assert_almost_equal", "assert_not_almost_equal"), ("assert_in", "assert_not_in"), ("assert_contains_subset", "assert_not_contains_subset"), ("assert_is", "assert_is_not"), ("assert_is_none", "assert_is_not_none"), ("assert_true", "assert_false"), ("assert_length_equal", "assert_length_not_equal"), ("assert_is_instance", "assert_not_is_instance"), ("assert_regex", "assert_not_regex"), ("assert_output", "assert_not_output"), ("assert_prints", "assert_not_output"), ("assert_output_contains", "assert_not_output_contains"), ("assert_output_regex", "assert_not_output_regex")]

/-- The relation of the second assertion of a pair is the negation of the first's. -/
theorem relOf_negationPairs :
    ∀ p ∈ negationPairs, ∃ rel, relOf p.1 = some rel ∧ relOf p.2 = some fun c => notR (rel c) := by
  simp only [negationPairs, List.forall_mem_cons, List.not_mem_nil, false_imp_iff, implies_true, and_true]
  and_intros
  all_goals exact ⟨_, by rw [relOf], by rw [relOf] <;> rfl⟩

/-- Membership by position: no string is compared. -/
theorem negationPairs_proved : ∀ p ∈ negationPairs, p.1 ∈ provedNames ∧ p.2 ∈ provedNames := by
  simp only [negationPairs, List.forall_mem_cons, List.not_mem_nil, false_imp_iff, implies_true, and_true]
  simp only [provedNames, List.mem_cons, true_or, or_true, and_self]

end Pedal.Assertions
